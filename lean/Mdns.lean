import Mdns.Model.Basic
import Mdns.Model.Cache
import Mdns.Model.Client
import Mdns.Model.Compare
import Mdns.Model.Decode
import Mdns.Model.Delay
import Mdns.Model.Encode
import Mdns.Model.Intf
import Mdns.Model.Label
import Mdns.Model.Names
import Mdns.Model.Record
import Mdns.Model.Responder
import Mdns.Model.Sched
import Mdns.Model.Shutdown
import Mdns.Model.Txt
import Mdns.Spec.Expect
import Mdns.Spec.RefParse
import Mdns.Spec.Trace
import Mdns.Driver.C02
import Mdns.Driver.C08
import Mdns.Driver.C11
import Mdns.Driver.C15
import Mdns.Driver.C16
import Mdns.Driver.C18
import Mdns.Driver.C19
import Mdns.Driver.MonClient
import Mdns.Driver.MonDuel
import Mdns.Driver.MonLink
import Mdns.Driver.MonResponder
import Mdns.Driver.MonShutdown
import Mdns.Driver.Sim
import Mdns.Driver.SimAll
import Mdns.Driver.SimClient
import Mdns.Driver.SimResponder
import Mdns.Driver.Wire
import Mdns.Lemmas.Cache
import Mdns.Lemmas.Client
import Mdns.Lemmas.ClientDistinct
import Mdns.Lemmas.ClientEvolve
import Mdns.Lemmas.ClientFrame
import Mdns.Lemmas.ClientHost
import Mdns.Lemmas.ClientHostComplete
import Mdns.Lemmas.ClientHostSchedule
import Mdns.Lemmas.ClientKept
import Mdns.Lemmas.ClientOrigin
import Mdns.Lemmas.ClientPhases
import Mdns.Lemmas.ClientProps
import Mdns.Lemmas.ClientSchedule
import Mdns.Lemmas.ClientStale
import Mdns.Lemmas.ClientStep
import Mdns.Lemmas.ClientStop
import Mdns.Lemmas.ClientTimers
import Mdns.Lemmas.ClientWf
import Mdns.Lemmas.Compare
import Mdns.Lemmas.Decode
import Mdns.Lemmas.Delay
import Mdns.Lemmas.Encode
import Mdns.Lemmas.Intf
import Mdns.Lemmas.Names
import Mdns.Lemmas.Record
import Mdns.Lemmas.RefParse
import Mdns.Lemmas.ResSpec
import Mdns.Lemmas.Responder
import Mdns.Lemmas.ResponderAnnounce
import Mdns.Lemmas.ResponderLifecycle
import Mdns.Lemmas.ResponderQuery
import Mdns.Lemmas.ResponderQueue
import Mdns.Lemmas.ResponderRegister
import Mdns.Lemmas.ResponderSched
import Mdns.Lemmas.ResponderSteps
import Mdns.Lemmas.ResponderTimers
import Mdns.Lemmas.ResponderTimersIter
import Mdns.Lemmas.ResponderTimersSpin
import Mdns.Lemmas.Sched
import Mdns.Lemmas.Shutdown
import Mdns.Lemmas.Txt
import Mdns.Props.C01
import Mdns.Props.C02
import Mdns.Props.C03
import Mdns.Props.C04
import Mdns.Props.C05
import Mdns.Props.C06
import Mdns.Props.C07
import Mdns.Props.C08
import Mdns.Props.C09
import Mdns.Props.C10
import Mdns.Props.C11
import Mdns.Props.C12
import Mdns.Props.C13
import Mdns.Props.C14
import Mdns.Props.C15
import Mdns.Props.C16
import Mdns.Props.C17
import Mdns.Props.C18
import Mdns.Props.C19
import Mdns.Props.C19Daemon
import Mdns.Props.C20
