import Mdns.Model.Cache
import Mdns.Lemmas.Record
/-
  Equations of `Table.get` / `Table.set`, the cache-flush step of `add_or_update` as one map with its
  condition (`FlushCond`), and eviction (`evictTable`, `evictLive`).
-/
namespace Mdns.Cache
open Mdns Mdns.Rec Mdns.Rec.Record

/-- the names of a table -/
def Table.keys (t : Table) : List BList := t.map (·.1)

namespace Table

@[simp] theorem keys_nil : keys ([] : Table) = [] := rfl
@[simp] theorem keys_cons (p : BList × List Entry) (t : Table) : keys (p :: t) = p.1 :: keys t := rfl

theorem get_cons (p : BList × List Entry) (t : Table) (k : BList) :
    get (p :: t) k = if k = p.1 then some p.2 else get t k := by
  obtain ⟨k', v'⟩ := p
  rw [get, List.lookup_cons]
  by_cases h : k = k'
  · rw [if_pos h, beq_iff_eq.mpr h]
  · rw [if_neg h, beq_eq_false_iff_ne.mpr h]
    rfl

theorem set_cons (p : BList × List Entry) (t : Table) (k : BList) (v : List Entry) :
    set (p :: t) k v = if p.1 = k then (k, v) :: t else p :: set t k v := by
  simp only [set, beq_iff_eq]

theorem get_set_self (t : Table) (k : BList) (v : List Entry) : (t.set k v).get k = some v := by
  induction t with
  | nil => rw [set, get_cons, if_pos rfl]
  | cons p rest ih =>
    rw [set_cons]
    split
    · rw [get_cons, if_pos rfl]
    · next h => rw [get_cons, if_neg (Ne.symm h), ih]

theorem get_set_ne (t : Table) (k k2 : BList) (v : List Entry) (hne : k2 ≠ k) : (t.set k v).get k2 = t.get k2 := by
  induction t with
  | nil => rw [set, get_cons, if_neg hne]
  | cons p rest ih =>
    rw [set_cons]
    split
    · next h => rw [get_cons, get_cons, if_neg hne, if_neg (h ▸ hne)]
    · rw [get_cons, get_cons, ih]

theorem get_eq_none_iff (t : Table) (k : BList) : t.get k = none ↔ k ∉ t.keys := by
  unfold Table.get Table.keys
  rw [List.lookup_eq_none_iff, List.mem_map]
  exact ⟨fun h ⟨p, hp, e⟩ => by simpa [e] using h p hp, fun h p hp => by simpa using fun e => h ⟨p, hp, e.symm⟩⟩

theorem mem_set (t : Table) (k : BList) (v : List Entry) (p : BList × List Entry) (h : p ∈ t.set k v) :
    p = (k, v) ∨ p ∈ t := by
  induction t with
  | nil => exact Or.inl (List.mem_singleton.mp h)
  | cons q rest ih =>
    rw [set_cons] at h
    split at h
    · exact (List.mem_cons.mp h).imp_right (List.mem_cons_of_mem _)
    · rcases List.mem_cons.mp h with rfl | h
      · exact Or.inr List.mem_cons_self
      · exact (ih h).imp_right (List.mem_cons_of_mem _)

theorem keys_set (t : Table) (k : BList) (v : List Entry) :
    (t.set k v).keys = if k ∈ t.keys then t.keys else t.keys ++ [k] := by
  induction t with
  | nil => rfl
  | cons p rest ih =>
    rw [set_cons]
    split
    · next h => rw [keys_cons, keys_cons, h, if_pos List.mem_cons_self]
    · next h =>
      simp only [keys_cons, ih, List.mem_cons, Ne.symm h, false_or]
      split <;> rfl

theorem nodup_set (t : Table) (k : BList) (v : List Entry) (h : t.keys.Nodup) : (t.set k v).keys.Nodup := by
  rw [keys_set]
  split
  · exact h
  · next hk =>
    exact List.nodup_append.mpr ⟨h, List.pairwise_singleton _ k, fun a ha b hb e => hk (List.mem_singleton.mp hb ▸ e ▸ ha)⟩

theorem get_eq_some_iff (t : Table) (h : t.keys.Nodup) (k : BList) (v : List Entry) :
    t.get k = some v ↔ (k, v) ∈ t := by
  induction t with
  | nil => exact iff_of_false nofun List.not_mem_nil
  | cons p rest ih =>
    rw [keys_cons, List.nodup_cons] at h
    rw [get_cons, List.mem_cons]
    split
    · next hk =>
      have hrest : (k, v) ∉ rest := fun hm => h.1 (hk ▸ List.mem_map_of_mem (f := (·.1)) hm)
      rw [or_iff_left hrest, Option.some.injEq, hk]
      exact ⟨fun e => e ▸ rfl, fun e => (congrArg Prod.snd e).symm⟩
    · next hk =>
      rw [ih h.2, or_iff_right fun e => hk (congrArg Prod.fst e)]

end Table

theorem setTable_table (c : Cache) (s s' : Slot) (t : Table) :
    (c.setTable s t).table s' = if s = s' then t else c.table s' := by
  cases s <;> cases s' <;> rfl

theorem noteSubtype_table (c : Cache) (inc : Record) (forUs : Bool) (s : Slot) :
    (noteSubtype c inc forUs).table s = c.table s := by
  unfold noteSubtype
  split
  · split
    · split <;> cases s <;> rfl
    · rfl
  · rfl

/-- the condition of the rule, in words of the property -/
def FlushCond (inc : Record) (now : Nat) (e : Entry) : Prop :=
  inc.cls = e.record.cls ∧ inc.ty = e.record.ty ∧ e.record.created + 1000 < now ∧ now + 1000 < e.record.expires ∧
  ((inc.ty = 1 ∨ inc.ty = 28) → ∀ ip n i ip' n' j, e.record.rdata = .addr ip n i → inc.rdata = .addr ip' n' j → i = j)

theorem shouldFlush_iff (inc : Record) (now : Nat) (e : Entry) : shouldFlush inc now e = true ↔ FlushCond inc now e := by
  unfold shouldFlush FlushCond
  simp only [Bool.and_eq_true, beq_iff_eq, decide_eq_true_eq, gt_iff_lt, and_assoc]
  refine and_congr_right fun _ => and_congr_right fun _ => and_congr_right fun _ => and_congr_right fun _ => ?_
  split
  · next hty =>
    refine Iff.trans ?_ (true_imp_iff.symm.trans (imp_congr_left (iff_true_intro hty).symm))
    split
    · next ip n i ip' n' j he hi =>
      rw [beq_iff_eq]
      constructor
      · intro h _ _ _ _ _ _ h1 h2
        cases he.symm.trans h1
        cases hi.symm.trans h2
        exact h
      · exact fun h => h _ _ _ _ _ _ he hi
    · next hno => exact iff_of_true rfl fun _ _ _ _ _ _ h1 h2 => (hno _ _ _ _ _ _ h1 h2).elim
  · next hty => exact iff_of_true rfl fun h => (hty h).elim

theorem flushList_eq_map (inc : Record) (now : Nat) (es : List Entry) :
    flushList inc now es = es.map fun e =>
      if inc.flush = true ∧ shouldFlush inc now e = true then { e with record := { e.record with expires := now + 1000 } } else e := by
  unfold flushList
  split
  · next hf =>
    simp only [hf, true_and]
    rfl
  · next hf => simp only [hf, Bool.false_eq_true, false_and, if_false, List.map_id']

theorem flushOne_matches (inc : Record) (now : Nat) (e : Entry) :
    (flushOne inc now e).record.matchesRec inc = e.record.matchesRec inc := by
  unfold flushOne
  split <;> rfl

theorem hasMatch_flushList (inc : Record) (now : Nat) (es : List Entry) :
    hasMatch inc (flushList inc now es) = hasMatch inc es := by
  unfold flushList hasMatch
  split
  · simp only [List.any_map]
    congr 1
    funext e
    exact flushOne_matches inc now e
  · rfl

theorem resetFirst_spec (inc : Record) (es : List Entry) (h : hasMatch inc es = true) :
    ∃ pre e post, es = pre ++ e :: post ∧ (∀ x ∈ pre, x.record.matchesRec inc = false) ∧
      e.record.matchesRec inc = true ∧
      resetFirst inc es = pre ++ { e with record := e.record.resetTtl inc } :: post ∧
      (es.findIdx fun x => x.record.matchesRec inc) = pre.length := by
  induction es with
  | nil => simp [hasMatch] at h
  | cons x rest ih =>
    by_cases hx : x.record.matchesRec inc = true
    · refine ⟨[], x, rest, rfl, by simp, hx, by simp [resetFirst, hx], by simp [List.findIdx_cons, hx]⟩
    · have hx' : x.record.matchesRec inc = false := by simpa using hx
      have hrest : hasMatch inc rest = true := by
        simpa [hasMatch, hx'] using h
      obtain ⟨pre, e, post, h1, h2, h3, h4, h5⟩ := ih hrest
      refine ⟨x :: pre, e, post, by simp [h1], ?_, h3, by simp [resetFirst, hx', h4], by simp [List.findIdx_cons, hx', h5]⟩
      intro y hy
      rcases List.mem_cons.mp hy with rfl | hy
      · exact hx'
      · exact h2 y hy

theorem live_iff (now : Nat) (e : Entry) : live now e = true ↔ now < e.record.expires := by
  simp [live, isExpired]

theorem keys_map_snd (t : Table) (f : BList × List Entry → List Entry) :
    Table.keys (t.map fun p => (p.1, f p)) = t.keys := by
  simp [Table.keys, List.map_map, Function.comp_def]

theorem keys_evictTable_sublist (now : Nat) (t : Table) : (evictTable now t).keys.Sublist t.keys := by
  rw [← keys_map_snd t fun p => p.2.filter (live now)]
  exact List.filter_sublist.map _

theorem mem_evictTable (now : Nat) (t : Table) (k : BList) (es' : List Entry) :
    (k, es') ∈ evictTable now t ↔ ∃ es, (k, es) ∈ t ∧ es' = es.filter (live now) ∧ es' ≠ [] := by
  unfold evictTable
  simp only [List.mem_filter, List.mem_map, Bool.not_eq_true', List.isEmpty_eq_false_iff]
  constructor
  · rintro ⟨⟨p, hp, he⟩, hne⟩
    obtain ⟨pk, pv⟩ := p
    simp only [Prod.mk.injEq] at he
    obtain ⟨rfl, rfl⟩ := he
    exact ⟨pv, hp, rfl, hne⟩
  · rintro ⟨es, hes, rfl, hne⟩
    exact ⟨⟨(k, es), hes, rfl⟩, hne⟩

/-- the second pass of `evict_expired_services` does to a table what `evict_expired_addr` does to the addresses -/
theorem evictLive_eq_evictTable (now : Nat) (t : Table) : evictLive now t = evictTable now t := by
  induction t with
  | nil => rfl
  | cons p t ih =>
    rw [evictTable, List.map_cons, List.filter_cons, ← evictTable, ← ih, evictLive, List.filterMap_cons]
    cases (p.2.filter (live now)).isEmpty <;> rfl

end Mdns.Cache
