import Mdns.Lemmas.ClientWf
/-
  C12 on the client model, cache part: every cached entry's expiry instant and refresh mark
  has a timer (`CacheTimed`), through every phase of an iteration.
-/
namespace Mdns.Client
open Mdns Mdns.Rec Mdns.Cache

/-- The timers `ts` cover the time-driven work of the entry `e` that lies after `T`: its expiry
    instant is a timer; its refresh mark is a timer if it comes before the expiry (a mark at
    or after the expiry asks for nothing: `refresh_maybe` answers only before the expiry); and
    the expiry is never later than creation time + TTL. -/
def EntryTimed (ts : List Nat) (T : Nat) (e : Entry) : Prop :=
  (T < e.record.expires → e.record.expires ∈ ts) ∧
  (T < e.record.refresh → e.record.refresh < e.record.expires → e.record.refresh ∈ ts) ∧
  e.record.expires ≤ expTime e.record.created e.record.ttl 100

def CacheTimed (ts : List Nat) (T : Nat) (c : Cache) : Prop := CacheAll (EntryTimed ts T) c

theorem EntryTimed.mono {ts ts' : List Nat} {T T' : Nat} {e : Entry} (h : EntryTimed ts T e)
    (hs : ∀ t ∈ ts, T' < t → t ∈ ts') (hT : T ≤ T') : EntryTimed ts' T' e :=
  ⟨fun h1 => hs _ (h.1 (by omega)) h1, fun h1 h2 => hs _ (h.2.1 (by omega) h2) h1, h.2.2⟩

theorem EntryTimed.sup {ts ts' : List Nat} {T : Nat} {e : Entry} (h : EntryTimed ts T e) (hs : ∀ t ∈ ts, t ∈ ts') :
    EntryTimed ts' T e :=
  h.mono (fun t ht _ => hs t ht) (Nat.le_refl T)

theorem CacheTimed.mono {ts ts' : List Nat} {T T' : Nat} {c : Cache} (h : CacheTimed ts T c)
    (hs : ∀ t ∈ ts, T' < t → t ∈ ts') (hT : T ≤ T') : CacheTimed ts' T' c :=
  CacheAll.mono (fun _ he => he.mono hs hT) h

theorem CacheTimed.sup {ts ts' : List Nat} {T : Nat} {c : Cache} (h : CacheTimed ts T c)
    (hs : ∀ t ∈ ts, t ∈ ts') : CacheTimed ts' T c :=
  CacheAll.mono (fun _ he => he.sup hs) h

theorem mem_upsert_result (srcName : BList) (srcIdx : Nat) (inc : Record) (es : List Entry) (e : Entry)
    (h : e ∈ upsert srcName srcIdx inc es) : e ∈ es ∨ (upsert srcName srcIdx inc es)[upsertIdx inc es]? = some e := by
  unfold upsert upsertIdx at *
  split at h
  · rename_i hm
    simp only [hm, if_true]
    obtain ⟨pre, e0, post, h1, _, _, h4, h5⟩ := resetFirst_spec inc es hm
    rw [h4] at h ⊢
    rw [h5]
    simp only [List.mem_append, List.mem_cons] at h
    rcases h with h | rfl | h
    · left; rw [h1]; simp [h]
    · right; simp
    · left; rw [h1]; simp [h]
  · rename_i hm
    simp only [hm]
    rcases List.mem_cons.mp h with rfl | h
    · right; simp
    · exact Or.inl h

/-- an entry of the cache after `add_or_update`: an old entry, an old entry of the incoming record's
    name that the cache flush lets expire in a second (and then `now + 1000` is among the new
    timers), or the entry that is returned -/
theorem addOrUpdate_entry (c : Cache) (srcName : BList) (srcIdx : Nat) (inc : Record) (now : Nat) (forUs : Bool)
    (sl' : Slot) (p : BList × List Entry) (hp : p ∈ (addOrUpdate c srcName srcIdx inc now forUs).cache.table sl')
    (e : Entry) (he : e ∈ p.2) :
    (∃ p0 ∈ c.table sl', e ∈ p0.2) ∨
    (∃ p0 ∈ c.table sl', ∃ e0 ∈ p0.2, shouldFlush inc now e0 = true ∧
      e = { e0 with record := e0.record.setExpire (now + 1000) } ∧
      now + 1000 ∈ (addOrUpdate c srcName srcIdx inc now forUs).timers) ∨
    ∃ b, (addOrUpdate c srcName srcIdx inc now forUs).result = some (e, b) := by
  have ht : ∀ sl, (noteSubtype c inc forUs).table sl = c.table sl := noteSubtype_table c inc forUs
  have hold : ∀ {p : BList × List Entry} {e : Entry}, p ∈ (noteSubtype c inc forUs).table sl' → e ∈ p.2 →
      ∃ p0 ∈ c.table sl', e ∈ p0.2 := fun hp he => ⟨_, ht sl' ▸ hp, he⟩
  unfold addOrUpdate at hp ⊢
  split at hp
  · exact Or.inl (hold hp he)
  · rename_i sl hs
    simp only [] at hp ⊢
    split at hp
    · -- the record is declined: the list of its name is written back as it was
      rw [setTable_table] at hp
      split at hp
      · rename_i hss
        subst hss
        rcases Table.mem_set _ _ _ _ hp with rfl | hp
        · obtain ⟨q, hq, _, hqe⟩ := mem_getD _ _ e he
          exact Or.inl (hold hq hqe)
        · exact Or.inl (hold hp he)
      · exact Or.inl (hold hp he)
    rename_i hdec
    rw [setTable_table] at hp
    split at hp
    · rename_i hss
      subst hss
      rcases Table.mem_set _ _ _ _ hp with rfl | hp
      · simp only [hdec, Bool.false_eq_true, if_false] at he ⊢
        rcases mem_upsert_result _ _ _ _ e he with hfl | hidx
        · unfold flushList at hfl
          split at hfl
          · rename_i hflush
            obtain ⟨e0, he0, rfl⟩ := List.mem_map.mp hfl
            obtain ⟨q0, hq0, _, hqe0⟩ := mem_getD _ _ e0 he0
            by_cases hsf : shouldFlush inc now e0 = true
            · refine Or.inr (Or.inl ⟨q0, ht sl ▸ hq0, e0, hqe0, hsf, by simp only [flushOne, hsf, if_true], ?_⟩)
              simp only [flushTimers, hflush, if_true, List.mem_map, List.mem_filter]
              exact ⟨e0, ⟨he0, hsf⟩, trivial⟩
            · simp only [flushOne, hsf, Bool.false_eq_true, if_false]
              exact Or.inl (hold hq0 hqe0)
          · obtain ⟨q0, hq0, _, hqe0⟩ := mem_getD _ _ e hfl
            exact Or.inl (hold hq0 hqe0)
        · exact Or.inr (Or.inr ⟨_, by rw [hidx]; rfl⟩)
      · exact Or.inl (hold hp he)
    · exact Or.inl (hold hp he)

theorem ingestOne_timers_sup (q : List (BList × Nat)) (ifName : BList) (ifIdx now : Nat) (forUs : Bool) (acc : Ingest)
    (r : Wire.Rec) :
    (∀ t ∈ acc.timers, t ∈ (ingestOne q ifName ifIdx now forUs acc r).timers) ∧
    (∀ t ∈ (addOrUpdate acc.cache ifName ifIdx (ofWire ifName ifIdx now r) now forUs).timers,
      t ∈ (ingestOne q ifName ifIdx now forUs acc r).timers) := by
  obtain ⟨extra, e, _⟩ := ingestOne_timers_eq q ifName ifIdx now forUs acc r
  rw [e]
  exact ⟨fun t ht => by simp [ht], fun t ht => by simp [ht]⟩

theorem ingestOne_arms_result (q : List (BList × Nat)) (ifName : BList) (ifIdx now : Nat) (forUs : Bool) (acc : Ingest)
    (r : Wire.Rec) (e : Entry) (b : Bool)
    (h : (addOrUpdate acc.cache ifName ifIdx (ofWire ifName ifIdx now r) now forUs).result = some (e, b)) :
    e.record.expires ∈ (ingestOne q ifName ifIdx now forUs acc r).timers ∧
    e.record.refresh ∈ (ingestOne q ifName ifIdx now forUs acc r).timers := by
  obtain ⟨extra, he, _⟩ := ingestOne_timers_eq q ifName ifIdx now forUs acc r
  rw [he, h]
  simp

theorem timed_ingestOne (ts0 : List Nat) (T : Nat) (q : List (BList × Nat)) (ifName : BList) (ifIdx now : Nat)
    (forUs : Bool) (acc : Ingest) (r : Wire.Rec) (h : CacheTimed (acc.timers ++ ts0) T acc.cache) :
    CacheTimed ((ingestOne q ifName ifIdx now forUs acc r).timers ++ ts0) T
      (ingestOne q ifName ifIdx now forUs acc r).cache := by
  have hsup := ingestOne_timers_sup q ifName ifIdx now forUs acc r
  have hmono : ∀ e, EntryTimed (acc.timers ++ ts0) T e →
      EntryTimed ((ingestOne q ifName ifIdx now forUs acc r).timers ++ ts0) T e := by
    intro e he
    refine he.sup fun t ht => ?_
    rcases List.mem_append.mp ht with ht | ht
    · exact List.mem_append_left _ (hsup.1 t ht)
    · exact List.mem_append_right _ ht
  rw [ingestOne_cache]
  intro sl' p hp e he
  rcases addOrUpdate_entry acc.cache ifName ifIdx (ofWire ifName ifIdx now r) now forUs sl' p hp e he with
    ⟨p0, hp0, he0⟩ | ⟨p0, hp0, e0, he0, hsf, rfl, htim⟩ | ⟨b, hres⟩
  · exact hmono e (h sl' p0 hp0 e he0)
  · have hold := h sl' p0 hp0 e0 he0
    have hcond := (shouldFlush_iff _ _ _).mp hsf
    have hm := hmono e0 hold
    refine ⟨fun _ => List.mem_append_left _ (hsup.2 _ htim), ?_, ?_⟩
    · intro h1 h2
      simp only [Record.setExpire] at h1 h2 ⊢
      exact hm.2.1 h1 (by have := hcond.2.2.2.1; omega)
    · simp only [Record.setExpire]
      have := hcond.2.2.2.1
      have := hold.2.2
      omega
  · obtain ⟨h1, h2, h3, h4⟩ := addOrUpdate_result_times _ _ _ _ _ _ e _ hres
    obtain ⟨ha, hb⟩ := ingestOne_arms_result q ifName ifIdx now forUs acc r e _ hres
    refine ⟨fun _ => List.mem_append_left _ ha, fun _ _ => List.mem_append_left _ hb, ?_⟩
    rw [h3, h1, h2]
    exact Nat.le_refl _

theorem timed_ingestAll (ts0 : List Nat) (T : Nat) (q : List (BList × Nat)) (ifName : BList) (ifIdx now : Nat)
    (forUs : Bool) : ∀ (rs : List Wire.Rec) (acc : Ingest), CacheTimed (acc.timers ++ ts0) T acc.cache →
      CacheTimed ((ingestAll q ifName ifIdx now forUs acc rs).timers ++ ts0) T
        (ingestAll q ifName ifIdx now forUs acc rs).cache
  | [], _, h => h
  | r :: rest, acc, h => by
    simp only [ingestAll]
    exact timed_ingestAll ts0 T q ifName ifIdx now forUs rest _ (timed_ingestOne ts0 T q ifName ifIdx now forUs acc r h)

theorem resolveUpdated_timers_sup (s : State) (now : Nat) (u : List BList) :
    ∀ t ∈ s.timers, t ∈ (resolveUpdated s now u).1.timers :=
  (step_resolveUpdated (now := now) (cmds := []) (KeyOK := fun _ => True) (OK := fun _ => True) s u trivial
    trivial).timers_mono

theorem timed_handleResponse (T : Nat) (s : State) (now : Nat) (intf : Intf) (m : Wire.Msg)
    (h : CacheTimed s.timers T s.cache) :
    CacheTimed (handleResponse s now intf m).1.timers T (handleResponse s now intf m).1.cache := by
  rw [handleResponse_cache]
  have h1 := timed_ingestAll s.timers T s.queriers intf.name intf.idx now (isForUs s m.answers)
    (m.answers ++ m.authorities ++ m.additionals) { cache := s.cache, timers := [], changes := [], outs := [] } h
  refine h1.sup ?_
  intro t ht
  unfold handleResponse
  simp only []
  exact resolveUpdated_timers_sup _ now _ t ht

theorem timed_handleRead (T : Nat) (s : State) (now : Nat) (p : Packet) (h : CacheTimed s.timers T s.cache) :
    CacheTimed (handleRead s now p).1.timers T (handleRead s now p).1.cache := by
  rcases handleRead_cases s now p with e | ⟨intf, e⟩ <;> rw [e]
  · exact h
  · exact timed_handleResponse T s now intf p.msg h

theorem timed_ingress (T now : Nat) : ∀ (pkts : List Packet) (s : State), CacheTimed s.timers T s.cache →
    CacheTimed (ingress s now pkts).1.timers T (ingress s now pkts).1.cache
  | [], _, h => h
  | p :: rest, s, h => by
    simp only [ingress]
    exact timed_ingress T now rest _ (timed_handleRead T s now p h)

theorem serviceVerifyQueries_nil (c : Cache) (inst : BList) (at_ : Option Nat)
    (h : (serviceVerifyQueries c inst at_).2 = []) : (serviceVerifyQueries c inst at_).1 = c := by
  cases hg : c.srv.get inst with
  | none => simp only [serviceVerifyQueries, hg]
  | some srvs =>
    cases at_ <;> simp [serviceVerifyQueries, hg] at h

theorem timed_sooner (ts : List Nat) (T t : Nat) (ht : t ∈ ts) (e : Entry) (h : EntryTimed ts T e) :
    EntryTimed ts T (soonerEntry t e) := by
  unfold soonerEntry Record.setExpireSooner
  split
  · rename_i hlt
    refine ⟨fun _ => ht, ?_, ?_⟩
    · intro h1 h2
      simp only [Record.setExpire] at h1 h2 ⊢
      exact h.2.1 h1 (by omega)
    · simp only [Record.setExpire]
      have := h.2.2
      omega
  · exact h

theorem execCommand_timers_sup (s : State) (now : Nat) (c : Command) :
    ∀ t ∈ s.timers, t ∈ (execCommand s now c).1.timers :=
  (step_execCommand (now := now) (cmds := [c]) (KeyOK := fun _ => True) (OK := fun _ => True) s c List.mem_cons_self
    (fun _ _ => trivial) trivial trivial).timers_mono

theorem timed_execCommand (T : Nat) (s : State) (now : Nat) (c : Command) (h : CacheTimed s.timers T s.cache) :
    CacheTimed (execCommand s now c).1.timers T (execCommand s now c).1.cache := by
  have hsup := execCommand_timers_sup s now c
  cases c with
  | browse ty ch co =>
    have : (execCommand s now (.browse ty ch co)).1.cache = s.cache := execBrowse_cache s now false ty 1 co ch
    rw [this]
    exact h.sup hsup
  | stopBrowse ty =>
    simp only [execCommand, execStopBrowse]
    split
    · exact h
    · exact cacheAll_removeServiceType h ty
  | resolveHost h0 ch t =>
    have : (execCommand s now (.resolveHost h0 ch t)).1.cache = s.cache := execResolveHost_cache s now false h0 1 ch t
    rw [this]
    exact h.sup hsup
  | stopResolve h0 =>
    simp only [execCommand, execStopResolve]
    split <;> exact h
  | ipInterval ms => exact h
  | verify inst t =>
    simp only [execCommand, execVerify, Bool.false_eq_true, if_false]
    split
    · rename_i hnil
      have hnil' : (serviceVerifyQueries s.cache inst (some (now + t))).2 = [] := by simpa using hnil
      simp only [serviceVerifyQueries_nil s.cache inst _ hnil']
      exact h
    · simp only [addRerun_cache, addTimers_cache]
      have h1 : CacheTimed ((now + 1000) :: ([now + t] ++ s.timers)) T s.cache :=
        h.sup fun x hx => by simp [hx]
      exact cacheAll_serviceVerifyQueries h1 inst (some (now + t)) (fun t' e ht' he => by
        cases ht'
        exact timed_sooner _ T _ (by simp) e he)
  | metrics ch => exact h
  | acceptUnsolicited on => exact h

theorem timed_runCommands (T now : Nat) (cmds : List Command) (s : State) (h : CacheTimed s.timers T s.cache) :
    CacheTimed (runCommands s now cmds).1.timers T (runCommands s now cmds).1.cache :=
  runCommands_induct (P := fun s => CacheTimed s.timers T s.cache) (ok := fun _ => True) now
    (fun s c _ => timed_execCommand T s now c) cmds s (fun _ _ => trivial) h

theorem mem_timers_ite_addRerun {c : Prop} [Decidable c] {s : State} {n : Nat} {cmd : RCmd} {t : Nat} (h : t ∈ s.timers) :
    t ∈ (if c then addRerun s n cmd else s).timers := by
  split
  · exact List.mem_cons_of_mem _ h
  · exact h

theorem execRerun_timers_sup (s : State) (now : Nat) (c : RCmd) : ∀ t ∈ s.timers, t ∈ (execRerun s now c).1.timers := by
  intro t ht
  cases c with
  | browse ty d ch => exact List.mem_cons_of_mem _ ht
  | resolveHost h d ch =>
    simp only [execRerun, execResolveHost]
    split
    · exact ht
    · simp only [if_true]
      exact mem_timers_ite_addRerun ht
  | resolve inst k =>
    simp only [execRerun, execResolveInst]
    split
    · exact ht
    · exact mem_timers_ite_addRerun ht
  | verify inst to =>
    simp only [execRerun, execVerify, if_true]
    split <;> exact ht

theorem timed_rerunPhase (T : Nat) (s : State) (now : Nat) (h : CacheTimed s.timers T s.cache) :
    CacheTimed (rerunPhase s now).1.timers T (rerunPhase s now).1.cache := by
  rw [rerunPhase_cache]
  exact h.sup (rerunPhase_induct (P := fun s' => ∀ t ∈ s.timers, t ∈ s'.timers) (Q := fun _ => True) now
    (fun s' _ _ r _ _ hp => ⟨fun t ht => execRerun_timers_sup _ now r.cmd t (hp t ht), fun _ _ => trivial⟩) s
    (fun _ ht => ht)).1

theorem timed_refreshEntries (ts : List Nat) (T now : Nat) (es : List Entry) (h : ∀ e ∈ es, EntryTimed ts T e) :
    ∀ e' ∈ (refreshEntries now es).1, EntryTimed ((refreshEntries now es).2 ++ ts) T e' := by
  intro e' he'
  simp only [refreshEntries, List.mem_map] at he'
  obtain ⟨e, he, rfl⟩ := he'
  have hm : EntryTimed ((refreshEntries now es).2 ++ ts) T e :=
    (h e he).sup fun t ht => List.mem_append_right _ ht
  by_cases hf : e.record.refreshFires now = true
  · have hin : (e.record.refreshed now).refresh ∈ (refreshEntries now es).2 := by
      simp only [refreshEntries, List.mem_filterMap]
      exact ⟨e, he, by simp [hf]⟩
    have hexp : (e.record.refreshed now).expires = e.record.expires := by simp [Record.refreshed, hf]
    have hcr : (e.record.refreshed now).created = e.record.created := by simp [Record.refreshed, hf]
    have httl : (e.record.refreshed now).ttl = e.record.ttl := by simp [Record.refreshed, hf]
    refine ⟨?_, fun _ _ => List.mem_append_left _ hin, ?_⟩
    · intro h1
      simp only [hexp] at h1 ⊢
      exact hm.1 h1
    · simp only [hexp, hcr, httl]
      exact hm.2.2
  · have : e.record.refreshed now = e.record := by simp [Record.refreshed, hf]
    simp only [this]
    exact hm

theorem tableTimed_sup {ts ts' : List Nat} {T : Nat} {t : Table} (h : TableAll (EntryTimed ts T) t) (hs : ∀ x ∈ ts, x ∈ ts') :
    TableAll (EntryTimed ts' T) t :=
  fun p hp e he => (h p hp e he).sup hs

/-- the refresh of the entries of one name, on a table with distinct names: the new refresh
    marks are among the timers `ts'` -/
theorem tableTimed_refresh {ts ts' : List Nat} {T : Nat} {t : Table} (now : Nat) (k : BList) (hn : t.keys.Nodup)
    (h : TableAll (EntryTimed ts T) t) (hs : ∀ x ∈ ts, x ∈ ts')
    (hr : ∀ x ∈ (refreshEntries now ((t.get k).getD [])).2, x ∈ ts') :
    TableAll (EntryTimed ts' T) (t.modify k fun es => (refreshEntries now es).1) := by
  intro p' hp' e' he'
  simp only [Table.modify, List.mem_map] at hp'
  obtain ⟨p, hp, rfl⟩ := hp'
  split at he'
  · rename_i hk
    have hg : (t.get k).getD [] = p.2 := by
      rw [← show p.1 = k by simpa using hk, (Table.get_eq_some_iff _ hn p.1 p.2).mpr hp]
      rfl
    rw [← hg] at he'
    exact (timed_refreshEntries ts T now _ (tableAll_getD h k) e' he').sup
      fun x hx => (List.mem_append.mp hx).elim (hr x) (hs x)
  · exact (h p hp e' he').sup hs

theorem timed_refreshDuePtr (ts : List Nat) (T now : Nat) (c : Cache) (ty : BList) (hn : KeysNodup c)
    (h : CacheTimed ts T c) : CacheTimed ((refreshDuePtr c ty now).2 ++ ts) T (refreshDuePtr c ty now).1 := by
  unfold refreshDuePtr
  split
  · simpa using h
  · rename_i es hes
    have hg : (c.ptr.get ty).getD [] = es := by rw [hes]; rfl
    unfold CacheTimed at h ⊢
    rw [cacheAll_iff] at h ⊢
    have hsup : ∀ x ∈ ts, x ∈ (refreshEntries now es).2 ++ ts := fun x hx => List.mem_append_right _ hx
    exact ⟨tableTimed_refresh now ty (hn .ptr) h.1 hsup (fun x hx => List.mem_append_left _ (hg ▸ hx)),
      tableTimed_sup h.2.1 hsup, tableTimed_sup h.2.2.1 hsup, tableTimed_sup h.2.2.2.1 hsup, tableTimed_sup h.2.2.2.2 hsup⟩

theorem timed_refreshSrvTxtGo (ts : List Nat) (T now : Nat) : ∀ (l : List BList) (s : SrvTxtDue), KeysNodup s.cache →
    CacheTimed (s.timers ++ ts) T s.cache →
    CacheTimed ((refreshSrvTxtGo now l s).timers ++ ts) T (refreshSrvTxtGo now l s).cache
  | [], _, _, h => h
  | inst :: rest, s, hn, h => by
    unfold refreshSrvTxtGo
    simp only []
    apply timed_refreshSrvTxtGo ts T now rest
    · rw [keysNodup_iff] at hn ⊢
      simp only [keys_modify]
      exact hn
    · unfold CacheTimed at h ⊢
      rw [cacheAll_iff] at h ⊢
      have hsup : ∀ x ∈ s.timers ++ ts, x ∈ (s.timers ++ (refreshEntries now ((s.cache.srv.get inst).getD [])).2 ++
          (refreshEntries now ((s.cache.txt.get inst).getD [])).2) ++ ts := by
        intro x hx
        rcases List.mem_append.mp hx with hx | hx <;> simp [hx]
      exact ⟨tableTimed_sup h.1 hsup, tableTimed_refresh now inst (hn .srv) h.2.1 hsup (fun x hx => by simp [hx]),
        tableTimed_refresh now inst (hn .txt) h.2.2.1 hsup (fun x hx => by simp [hx]),
        tableTimed_sup h.2.2.2.1 hsup, tableTimed_sup h.2.2.2.2 hsup⟩

theorem timed_refreshHostsGo (ts : List Nat) (T now : Nat) : ∀ (l : List BList) (s : HostsDue), KeysNodup s.cache →
    CacheTimed (s.timers ++ ts) T s.cache →
    CacheTimed ((refreshHostsGo now l s).timers ++ ts) T (refreshHostsGo now l s).cache
  | [], _, _, h => h
  | hst :: rest, s, hn, h => by
    unfold refreshHostsGo
    simp only []
    apply timed_refreshHostsGo ts T now rest
    · rw [keysNodup_iff] at hn ⊢
      simp only [keys_modify]
      exact hn
    · unfold CacheTimed at h ⊢
      rw [cacheAll_iff] at h ⊢
      have hsup : ∀ x ∈ s.timers ++ ts,
          x ∈ (s.timers ++ (refreshEntries now ((s.cache.addr.get (lower hst)).getD [])).2) ++ ts := by
        intro x hx
        rcases List.mem_append.mp hx with hx | hx <;> simp [hx]
      exact ⟨tableTimed_sup h.1 hsup, tableTimed_sup h.2.1 hsup, tableTimed_sup h.2.2.1 hsup,
        tableTimed_refresh now (lower hst) (hn .addr) h.2.2.2.1 hsup (fun x hx => by simp [hx]), tableTimed_sup h.2.2.2.2 hsup⟩

theorem timed_refreshType (ts : List Nat) (T now : Nat) (c : Cache) (ty : BList) (hn : KeysNodup c)
    (h : CacheTimed ts T c) : CacheTimed ((refreshType c now ty).2.2 ++ ts) T (refreshType c now ty).1 := by
  have hcl := keysNodup_closed now
  have h1 := timed_refreshDuePtr ts T now c ty hn h
  have hn1 := hcl.refreshPtr c ty hn
  have h2 := timed_refreshSrvTxtGo ((refreshDuePtr c ty now).2 ++ ts) T now
    (liveInstances (refreshDuePtr c ty now).1 ty now) { cache := (refreshDuePtr c ty now).1, due := [], timers := [] } hn1 h1
  have hn2 := hcl.refreshSrvTxt _ ty hn1
  have h3 : CacheTimed ((refreshDueHosts (refreshDueSrvTxt (refreshDuePtr c ty now).1 ty now).cache ty now).timers ++
      ((refreshDueSrvTxt (refreshDuePtr c ty now).1 ty now).timers ++ ((refreshDuePtr c ty now).2 ++ ts))) T
      (refreshDueHosts (refreshDueSrvTxt (refreshDuePtr c ty now).1 ty now).cache ty now).cache :=
    timed_refreshHostsGo ((refreshDueSrvTxt (refreshDuePtr c ty now).1 ty now).timers ++
      ((refreshDuePtr c ty now).2 ++ ts)) T now _
    { cache := (refreshDueSrvTxt (refreshDuePtr c ty now).1 ty now).cache, due := [], timers := [] } hn2 h2
  unfold refreshType
  simp only []
  exact h3.sup fun x hx => by
    simp only [List.mem_append] at hx ⊢
    rcases hx with hx | hx | hx | hx <;> simp [hx]

theorem timed_refreshTypes (T now : Nat) : ∀ (l : List BList) (ts : List Nat) (c : Cache), KeysNodup c →
    CacheTimed ts T c → CacheTimed ((refreshTypes c now l).2.2 ++ ts) T (refreshTypes c now l).1
  | [], ts, c, _, h => by simpa [refreshTypes] using h
  | ty :: rest, ts, c, hn, h => by
    have h1 := timed_refreshType ts T now c ty hn h
    have hn1 : KeysNodup (refreshType c now ty).1 := by
      have hcl := keysNodup_closed now
      unfold refreshType
      simp only []
      exact hcl.refreshHosts _ ty (hcl.refreshSrvTxt _ ty (hcl.refreshPtr c ty hn))
    have h2 := timed_refreshTypes T now rest _ _ hn1 h1
    simp only [refreshTypes]
    exact h2.sup fun x hx => by
      simp only [List.mem_append] at hx ⊢
      rcases hx with hx | hx | hx <;> simp [hx]

theorem timed_refreshActive (T : Nat) (s : State) (now : Nat) (hn : KeysNodup s.cache) (h : CacheTimed s.timers T s.cache) :
    CacheTimed (refreshActive s now).1.timers T (refreshActive s now).1.cache := by
  have h1 := timed_refreshTypes T now (activeTypes s) s.timers s.cache hn h
  unfold refreshActive
  simp only [addTimers_cache]
  refine CacheTimed.sup h1 ?_
  intro x hx
  simp only [addTimers, List.mem_append, List.mem_eraseDups] at hx ⊢
  exact hx

theorem timed_noMore (ts : List Nat) (T : Nat) (e : Entry) (h : EntryTimed ts T e) :
    EntryTimed ts T { e with record := e.record.refreshNoMore } := by
  -- `refreshNoMore` puts the mark at the end of the lifetime, not before the expiry: it asks for no timer
  have hle : e.record.expires ≤ e.record.refreshNoMore.refresh := h.2.2
  exact ⟨h.1, fun _ h2 => absurd h2 (Nat.not_lt.mpr hle), h.2.2⟩

theorem timed_refreshResolvers (T : Nat) (s : State) (now : Nat) (h : CacheTimed s.timers T s.cache) :
    CacheTimed (refreshResolvers s now).1.timers T (refreshResolvers s now).1.cache := by
  simp only [refreshResolvers]
  exact cacheAll_refreshResolversGo now (timed_noMore s.timers T) _ _ h

theorem evictAddrPhase_timers_sup (s : State) (now : Nat) : ∀ t ∈ s.timers, t ∈ (evictAddrPhase s now).1.timers :=
  (step_evictAddrPhase (now := now) (cmds := []) (KeyOK := fun _ => True) (OK := fun _ => True) s trivial
    trivial).timers_mono

theorem timed_evict (T : Nat) (s : State) (now : Nat) (h : CacheTimed s.timers T s.cache) :
    CacheTimed (evictAddrPhase (evictServicesPhase s now).1 now).1.timers T
      (evictAddrPhase (evictServicesPhase s now).1 now).1.cache := by
  have h1 : CacheTimed (evictServicesPhase s now).1.timers T (evictServicesPhase s now).1.cache :=
    cacheAll_evictServices h now
  have h2 : CacheTimed (evictServicesPhase s now).1.timers T (evictAddr (evictServicesPhase s now).1.cache now).1 :=
    cacheAll_evictAddr h1 now
  have hc : (evictAddrPhase (evictServicesPhase s now).1 now).1.cache =
      (evictAddr (evictServicesPhase s now).1.cache now).1 := by
    simp only [evictAddrPhase, evictAddrHosts_cache]
  rw [hc]
  exact h2.sup (evictAddrPhase_timers_sup _ now)

theorem runIpCheck_timers_sup (s : State) (now : Nat) : ∀ t ∈ s.timers, t ∈ (runIpCheck s now).timers := by
  intro t ht
  rcases runIpCheck_cases s now with ⟨he, _⟩ | ⟨he, _⟩ | ⟨he, _⟩ <;> rw [he]
  · exact ht
  · exact List.mem_cons_of_mem _ ht
  · exact ht

/-- **One iteration**: the timers cover the expiry instants and refresh marks of the cached
    entries, for everything that lies after the later of `T` and `now`. -/
theorem timed_iter (T : Nat) (s : State) (now : Nat) (pkts : List Packet) (cmds : List Command)
    (hn : KeysNodup s.cache) (h : CacheTimed s.timers T s.cache) :
    CacheTimed (iter s now pkts cmds).1.timers (max T now) (iter s now pkts cmds).1.cache := by
  have h1 := timed_ingress T now pkts s h
  have h2 : CacheTimed (preCommands s now pkts).timers (max T now) (preCommands s now pkts).cache := by
    simp only [preCommands, runTimeouts_cache, runTimeouts_timers, popTimers_cache]
    refine h1.mono (fun t ht hlt => ?_) (Nat.le_max_left T now)
    exact List.mem_filter.mpr ⟨ht, by simp; omega⟩
  have h3 := timed_runCommands (max T now) now cmds _ h2
  have h4 := timed_rerunPhase (max T now) _ now h3
  have h5 := timed_refreshActive (max T now) _ now (closed_preRefresh (keysNodup_closed now) s pkts cmds hn) h4
  have h6 := timed_refreshResolvers (max T now) _ now h5
  have h7 := timed_evict (max T now) _ now h6
  simp only [iter_fst, preIp, preEvict, runIpCheck_cache]
  exact CacheTimed.sup h7 (runIpCheck_timers_sup _ now)

end Mdns.Client
