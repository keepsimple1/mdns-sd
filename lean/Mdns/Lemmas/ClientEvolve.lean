import Mdns.Lemmas.ClientStep
/-
  One whole iteration of the client model, seen on the scheduling part of the state:
  `Evolves` (which timers, queued re-runs, searches an iteration can leave, and where each
  comes from), assembled from the per-phase `Step` lemmas; and the quiet iteration (nothing
  browsed, nothing queued, no input), which only pops timers.
-/
namespace Mdns.Client
open Mdns Mdns.Rec Mdns.Cache

/-- a timer armed during the iteration at `now` (other than the interface check): within an
    hour (follow-ups, retransmissions with their back-off of at most 3600 s), within the
    lifetime of a delivered record (expiry, refresh marks, cache flush), or a deadline given by
    a command of this iteration -/
def IterTimer (now : Nat) (ds : List Delivery) (cmds : List Command) (t : Nat) : Prop :=
  t ≤ now + 3600000 ∨ (∃ d ∈ ds, t ≤ d.time + 1000 * d.wire.ttl) ∨
  (∃ c ∈ cmds, (∃ h ch to, c = Command.resolveHost h ch (some to) ∧ t = now + to) ∨
    (∃ inst to, c = Command.verify inst to ∧ t = now + to))

/-- the key of a re-run queued during an iteration: none (follow-up, verify), that of a command
    of the iteration, or that of a re-run that was queued before -/
def KeyIter (cmds : List Command) (old : List Rerun) (k : Option (Nat × BList × Nat)) : Prop :=
  k = none ∨ (∃ c ∈ cmds, ckey c = k) ∨ ∃ r0 ∈ old, rkey r0.cmd = k

theorem expTime_80_le (t ttl : Nat) : expTime t ttl 80 ≤ t + 1000 * ttl :=
  expTime_hundred t ttl ▸ expTime_le t ttl (by decide)

theorem iterTimer_of_ingress (now : Nat) (ds ds' : List Delivery) (cmds : List Command) (hsub : ∀ d ∈ ds, d ∈ ds') (t : Nat)
    (h : IngressTimer now ds t) : IterTimer now ds' cmds t := by
  rcases h with h | h | ⟨d, hd, ht, h⟩
  · left; omega
  · left; omega
  · right; left
    refine ⟨d, hsub d hd, ?_⟩
    rw [ht]
    rcases h with h | h
    · rw [h, expTime_hundred]
      exact Nat.le_refl _
    · rw [h]
      exact expTime_80_le now _

theorem step_ingress_iter (hist : List Delivery) (s : State) (now : Nat) (pkts : List Packet) (cmds : List Command) :
    Step now [] (fun k => k = none) (IterTimer now (hist ++ deliveries s now pkts) cmds) s (ingress s now pkts).1 :=
  step_ingress (now := now) (cmds := []) (KeyOK := fun k => k = none)
    (OK := IterTimer now (hist ++ deliveries s now pkts) cmds) rfl pkts s fun t ht =>
    iterTimer_of_ingress now (deliveries s now pkts) (hist ++ deliveries s now pkts) cmds
      (fun _ hd => List.mem_append_right _ hd) t ht

theorem afterPop_reruns (s : State) (now : Nat) (pkts : List Packet) :
    (afterPop s now pkts).reruns = (ingress s now pkts).1.reruns := rfl

theorem iterTimer_of_refresh (now : Nat) (ds : List Delivery) (cmds : List Command) (c : Cache) (hc : CacheProv ds c) (t : Nat)
    (h : RefreshTimer c t) : IterTimer now ds cmds t := by
  obtain ⟨c', hl, sl, p, hp, e, he, hle⟩ := h
  obtain ⟨⟨d, hd, j⟩, _⟩ := hc.low hl sl p hp e he
  right; left
  refine ⟨d, hd, ?_⟩
  rw [expTime_hundred, j.2.2.2.2.2.1, j.2.2.2.2.2.2.1] at hle
  exact hle

/-- **after `pop_timers_till`**: time-outs, commands, re-runs, refresh, eviction -/
theorem step_post (hist : List Delivery) (s : State) (now : Nat) (pkts : List Packet) (cmds : List Command)
    (hc : CacheProv hist s.cache) (hD : ∀ r ∈ s.reruns, DelayOk r) :
    Step now cmds (KeyIter cmds (afterPop s now pkts).reruns) (IterTimer now (hist ++ deliveries s now pkts) cmds)
      (afterPop s now pkts) (preIp s now pkts cmds) := by
  have hk : KeyIter cmds (afterPop s now pkts).reruns none := Or.inl rfl
  have h500 : IterTimer now (hist ++ deliveries s now pkts) cmds (now + 500) := by left; omega
  have h1 : Step now cmds (KeyIter cmds (afterPop s now pkts).reruns) (IterTimer now (hist ++ deliveries s now pkts) cmds)
      (afterPop s now pkts) (preCommands s now pkts) :=
    Step.of_sub rfl (fun _ h => h) (fun _ h => (List.mem_filter.mp h).1) (fun _ h => h) rfl
  have h2 := step_runCommands (now := now) (cmds := cmds) (KeyOK := KeyIter cmds (afterPop s now pkts).reruns)
    (OK := IterTimer now (hist ++ deliveries s now pkts) cmds) hk cmds (preCommands s now pkts) (fun _ h => h)
    (by
      intro c hc t ht
      rcases ht with h | h | ⟨h0, ch, to, rfl, h⟩ | ⟨inst, to, rfl, h⟩
      · left; omega
      · left; omega
      · exact Or.inr (Or.inr ⟨_, hc, Or.inl ⟨h0, ch, to, rfl, h⟩⟩)
      · exact Or.inr (Or.inr ⟨_, hc, Or.inr ⟨inst, to, rfl, h⟩⟩))
    (fun c hc => Or.inr (Or.inl ⟨c, hc, rfl⟩))
  have h12 := h1.trans h2
  have hing := step_ingress_iter hist s now pkts cmds
  have hall : ∀ r ∈ (runCommands (preCommands s now pkts) now cmds).1.reruns,
      DelayOk r ∧ KeyIter cmds (afterPop s now pkts).reruns (rkey r.cmd) := by
    intro r hr
    rcases h12.reruns r hr with h | ⟨_, _, h3, h4⟩
    · refine ⟨?_, Or.inr (Or.inr ⟨r, h, rfl⟩)⟩
      rw [afterPop_reruns] at h
      rcases hing.reruns r h with h | ⟨_, _, h3, _⟩
      · exact hD r h
      · exact h3
    · exact ⟨h3, h4⟩
  have h3 := step_rerunPhase (now := now) (cmds := cmds) (KeyOK := KeyIter cmds (afterPop s now pkts).reruns)
    (OK := IterTimer now (hist ++ deliveries s now pkts) cmds) (runCommands (preCommands s now pkts) now cmds).1 hk
    (by
      intro r hr t ht
      left
      -- a back-off delay of at most an hour
      have hd : ∀ d : Nat, 1 ≤ d ∧ d ≤ 3600 → now + d * 1000 ≤ now + 3600000 := fun d h => by omega
      rcases ht with h | ⟨ty, d, ch, hcmd, h⟩ | ⟨h0, d, ch, hcmd, h⟩
      · omega
      · rw [h]
        exact hd d (by simpa [DelayOk, hcmd] using hr)
      · rw [h]
        exact hd d (by simpa [DelayOk, hcmd] using hr))
    hall
  have hp5 : CacheProv (hist ++ deliveries s now pkts)
      (rerunPhase (runCommands (preCommands s now pkts) now cmds).1 now).1.cache := by
    rw [rerunPhase_cache]
    exact closed_runCommands ((lowClosed_cacheProv _).phases now) cmds _ (prov_preCommands hist s now pkts hc)
  have h4 := step_refreshActive (now := now) (cmds := cmds) (KeyOK := KeyIter cmds (afterPop s now pkts).reruns)
    (OK := IterTimer now (hist ++ deliveries s now pkts) cmds)
    (rerunPhase (runCommands (preCommands s now pkts) now cmds).1 now).1
    (fun t ht => iterTimer_of_refresh now _ cmds _ hp5 t ht)
  have h5 := step_refreshResolvers (now := now) (cmds := cmds) (KeyOK := KeyIter cmds (afterPop s now pkts).reruns)
    (OK := IterTimer now (hist ++ deliveries s now pkts) cmds)
    (refreshActive (rerunPhase (runCommands (preCommands s now pkts) now cmds).1 now).1 now).1
  have h6 := step_evictServicesPhase (now := now) (cmds := cmds) (KeyOK := KeyIter cmds (afterPop s now pkts).reruns)
    (OK := IterTimer now (hist ++ deliveries s now pkts) cmds) (preEvict s now pkts cmds)
  have h7 := step_evictAddrPhase (now := now) (cmds := cmds) (KeyOK := KeyIter cmds (afterPop s now pkts).reruns)
    (OK := IterTimer now (hist ++ deliveries s now pkts) cmds) (evictServicesPhase (preEvict s now pkts cmds) now).1 h500 hk
  exact ((((h12.trans h3).trans h4).trans h5).trans h6).trans h7

/-- **One iteration, scheduling part.**  `s'` is the state after an iteration at `now` on `s`
    (`ds` = the records delivered so far, this iteration included; `cmds` = its commands):
    * a timer of `s` that lies after `now` is kept; a timer of `s'` is such an old one, or was
      armed in this iteration (`IterTimer`), or is the new interface-check time;
    * a queued re-run is an old one, or is due after `now`, has its timer, a delay between 1 s
      and 1 h and a key from a command or an old re-run;
    * an open hostname search is an old one or stems from a `resolve_hostname` of `cmds`, its
      deadline armed; a browse is an old one or stems from a `browse` of `cmds`;
    * the next interface check is unchanged and not yet due (or off), or switched off, or armed
      after `now`. -/
structure Evolves (now : Nat) (ds : List Delivery) (cmds : List Command) (s s' : State) : Prop where
  timers_old : ∀ t ∈ s.timers, now < t → t ∈ s'.timers
  timers_new : ∀ t ∈ s'.timers, (t ∈ s.timers ∧ now < t) ∨ IterTimer now ds cmds t ∨ (t = s'.nextIpCheck ∧ now < t)
  reruns : ∀ r ∈ s'.reruns, r ∈ s.reruns ∨
    (r.next ∈ s'.timers ∧ now < r.next ∧ DelayOk r ∧ KeyIter cmds s.reruns (rkey r.cmd))
  resolvers : ∀ q ∈ s'.resolvers, q ∈ s.resolvers ∨
    ∃ h t, Command.resolveHost h q.2.1 t ∈ cmds ∧ q.1 = lower h ∧ ∀ dl, q.2.2 = some dl → dl ∈ s'.timers
  queriers : ∀ q ∈ s'.queriers, q ∈ s.queriers ∨ ∃ co, Command.browse q.1 q.2 co ∈ cmds
  ip : (s'.nextIpCheck = s.nextIpCheck ∧ (now < s.nextIpCheck ∨ s.nextIpCheck = 0)) ∨
    (s'.nextIpCheck = 0 ∧ s.nextIpCheck ≤ now) ∨
    (s'.nextIpCheck ∈ s'.timers ∧ now < s'.nextIpCheck ∧ s.nextIpCheck ≤ now)

theorem Evolves.of_steps {now : Nat} {ds : List Delivery} {cmds : List Command} {s a p : State}
    (hA : Step now [] (fun k => k = none) (IterTimer now ds cmds) s a)
    (hB : Step now cmds (KeyIter cmds (popTimers a now).reruns) (IterTimer now ds cmds) (popTimers a now) p) :
    Evolves now ds cmds s (runIpCheck p now) := by
  obtain ⟨nA, eA, oA⟩ := hA.timers
  obtain ⟨nB, eB, oB⟩ := hB.timers
  have hpop : (popTimers a now).timers = a.timers.filter (· > now) := rfl
  have hpre_old : ∀ t ∈ s.timers, now < t → t ∈ p.timers := by
    intro t ht hlt
    rw [eB, hpop, eA]
    exact List.mem_append_right _ (List.mem_filter.mpr ⟨List.mem_append_right _ ht, by simpa using hlt⟩)
  have hpre_new : ∀ t ∈ p.timers, (t ∈ s.timers ∧ now < t) ∨ IterTimer now ds cmds t := by
    intro t ht
    rw [eB] at ht
    rcases List.mem_append.mp ht with ht | ht
    · exact Or.inr (oB t ht)
    · rw [hpop, eA] at ht
      obtain ⟨h1, h2⟩ := List.mem_filter.mp ht
      have h2' : now < t := by simpa using h2
      rcases List.mem_append.mp h1 with h1 | h1
      · exact Or.inr (oA t h1)
      · exact Or.inl ⟨h1, h2'⟩
  have hpre_reruns : ∀ r ∈ p.reruns, r ∈ s.reruns ∨
      (r.next ∈ p.timers ∧ now < r.next ∧ DelayOk r ∧ KeyIter cmds s.reruns (rkey r.cmd)) := by
    intro r hr
    have hkey : ∀ k, KeyIter cmds (popTimers a now).reruns k → KeyIter cmds s.reruns k := by
      intro k hk
      rcases hk with h | h | ⟨r0, hr0, h⟩
      · exact Or.inl h
      · exact Or.inr (Or.inl h)
      · rcases hA.reruns r0 hr0 with h1 | ⟨_, _, _, h4⟩
        · exact Or.inr (Or.inr ⟨r0, h1, h⟩)
        · exact Or.inl (h ▸ h4)
    rcases hB.reruns r hr with h | ⟨h1, h2, h3, h4⟩
    · rcases hA.reruns r h with h | ⟨h1, h2, h3, h4⟩
      · exact Or.inl h
      · refine Or.inr ⟨?_, h2, h3, Or.inl h4⟩
        apply hB.timers_mono
        rw [hpop]
        exact List.mem_filter.mpr ⟨h1, by simpa using h2⟩
    · exact Or.inr ⟨h1, h2, h3, hkey _ h4⟩
  have hpre_res : ∀ q ∈ p.resolvers, q ∈ s.resolvers ∨
      ∃ h t, Command.resolveHost h q.2.1 t ∈ cmds ∧ q.1 = lower h ∧ ∀ dl, q.2.2 = some dl → dl ∈ p.timers := by
    intro q hq
    rcases hB.resolvers q hq with h | h
    · rcases hA.resolvers q h with h | ⟨_, _, h, _⟩
      · exact Or.inl h
      · cases h
    · exact Or.inr h
  have hpre_q : ∀ q ∈ p.queriers, q ∈ s.queriers ∨ ∃ co, Command.browse q.1 q.2 co ∈ cmds := by
    intro q hq
    rcases hB.queriers q hq with h | h
    · rcases hA.queriers q h with h | ⟨_, h⟩
      · exact Or.inl h
      · cases h
    · exact Or.inr h
  have hpre_ip : p.nextIpCheck = s.nextIpCheck := hB.ip.trans hA.ip
  rcases runIpCheck_cases p now with ⟨he, hnd⟩ | ⟨he, hpos, hle⟩ | ⟨he, hle⟩
  · rw [he]
    refine ⟨hpre_old, ?_, hpre_reruns, hpre_res, hpre_q, Or.inl ⟨hpre_ip, hpre_ip ▸ hnd⟩⟩
    intro t ht
    rcases hpre_new t ht with h | h
    · exact Or.inl h
    · exact Or.inr (Or.inl h)
  · rw [he]
    refine ⟨fun t ht hlt => List.mem_cons_of_mem _ (hpre_old t ht hlt), ?_, ?_, ?_, hpre_q, ?_⟩
    · intro t ht
      rcases List.mem_cons.mp ht with rfl | ht
      · exact Or.inr (Or.inr ⟨rfl, by omega⟩)
      · rcases hpre_new t ht with h | h
        · exact Or.inl h
        · exact Or.inr (Or.inl h)
    · intro r hr
      rcases hpre_reruns r hr with h | ⟨h1, h2⟩
      · exact Or.inl h
      · exact Or.inr ⟨List.mem_cons_of_mem _ h1, h2⟩
    · intro q hq
      rcases hpre_res q hq with h | ⟨h0, t, h1, h2, h3⟩
      · exact Or.inl h
      · exact Or.inr ⟨h0, t, h1, h2, fun dl hd => List.mem_cons_of_mem _ (h3 dl hd)⟩
    · exact Or.inr (Or.inr ⟨List.mem_cons_self, by simp only; omega, hpre_ip ▸ hle⟩)
  · rw [he]
    refine ⟨hpre_old, ?_, hpre_reruns, hpre_res, hpre_q, Or.inr (Or.inl ⟨rfl, hpre_ip ▸ hle⟩)⟩
    intro t ht
    rcases hpre_new t ht with h | h
    · exact Or.inl h
    · exact Or.inr (Or.inl h)

theorem evolves_iter (hist : List Delivery) (s : State) (now : Nat) (pkts : List Packet) (cmds : List Command)
    (hc : CacheProv hist s.cache) (hD : ∀ r ∈ s.reruns, DelayOk r) :
    Evolves now (hist ++ deliveries s now pkts) cmds s (iter s now pkts cmds).1 := by
  rw [iter_fst]
  exact Evolves.of_steps (step_ingress_iter hist s now pkts cmds) (step_post hist s now pkts cmds hc hD)

theorem resolveUpdated_quiet (s : State) (now : Nat) (u : List BList) (hq : s.queriers = []) :
    (resolveUpdated s now u).1.timers = s.timers ∧ (resolveUpdated s now u).1.reruns = s.reruns ∧
    (resolveUpdated s now u).1.nextIpCheck = s.nextIpCheck := by
  unfold resolveUpdated
  split
  · exact ⟨rfl, rfl, rfl⟩
  · have hv : visits s now u = [] := by
      simp [visits, hq]
    simp only [hv, List.filter_nil, List.map_nil, List.eraseDups_nil, addPendings]
    exact ⟨rfl, rfl, rfl⟩

theorem evictAddrHosts_quiet (now : Nat) (items : List (BList × BList × BList × Nat)) :
    ∀ (hosts : List BList) (s : State), s.queriers = [] →
      (evictAddrHosts s now items hosts).1.timers = s.timers ∧ (evictAddrHosts s now items hosts).1.reruns = s.reruns ∧
      (evictAddrHosts s now items hosts).1.nextIpCheck = s.nextIpCheck
  | [], _, _ => ⟨rfl, rfl, rfl⟩
  | h :: rest, s, hq => by
    simp only [evictAddrHosts]
    have h1 := resolveUpdated_quiet s now (instancesOnHost s.cache h) hq
    have h2 := evictAddrHosts_quiet now items rest (resolveUpdated s now (instancesOnHost s.cache h)).1
      ((same_resolveUpdated s now _).queriers.trans hq)
    exact ⟨h2.1.trans h1.1, h2.2.1.trans h1.2.1, h2.2.2.trans h1.2.2⟩

theorem evictPhases_quiet (z : State) (now : Nat) (hq : z.queriers = []) :
    (evictPhases z now).1.timers = z.timers ∧ (evictPhases z now).1.reruns = z.reruns ∧
    (evictPhases z now).1.nextIpCheck = z.nextIpCheck := by
  simp only [evictPhases, evictAddrPhase]
  exact evictAddrHosts_quiet now _ _ _ hq

theorem rerunPhase_nil (x : State) (now : Nat) (hr : x.reruns = []) : rerunPhase x now = (x, []) := by
  cases x
  cases hr
  rfl

theorem refreshActive_quiet (x : State) (now : Nat) (hq : x.queriers = []) : refreshActive x now = (x, []) := by
  have hm : activeTypes x = [] := by simp only [activeTypes, hq, List.map_nil, List.filter_nil]
  unfold refreshActive
  rw [hm]
  rfl

/-- **A quiet iteration** (no datagram, no command, nothing browsed, nothing queued): before the
    interface-check block the timers are exactly the old ones that lie after `now`, and still
    nothing is browsed or queued. -/
theorem quiet_preIp (s : State) (now : Nat) (hq : s.queriers = []) (hr : s.reruns = []) :
    (preIp s now [] []).timers = s.timers.filter (· > now) ∧ (preIp s now [] []).reruns = [] ∧
    (preIp s now [] []).queriers = [] ∧ (preIp s now [] []).nextIpCheck = s.nextIpCheck ∧
    (preIp s now [] []).ipInterval = s.ipInterval := by
  have ex : preCommands s now [] = (runTimeouts (popTimers s now) now).1 := by simp only [preCommands, ingress]
  have e2 : preEvict s now [] [] = (refreshResolvers (preCommands s now []) now).1 := by
    rw [preEvict_eq]
    simp only [runCommands, refreshPhases]
    rw [rerunPhase_nil _ now (by rw [ex]; exact hr), refreshActive_quiet _ now (by rw [ex]; exact hq)]
  have hz : (preEvict s now [] []).queriers = [] := by rw [e2, ex]; exact hq
  obtain ⟨h1, h2, h3⟩ := evictPhases_quiet _ now hz
  have hs := same_evictPhases (preEvict s now [] []) now
  rw [preIp_eq, h1, h2, h3, hs.queriers, hs.ipInterval, e2, ex]
  exact ⟨rfl, hr, hq, rfl, rfl⟩

end Mdns.Client
