import Mdns.Lemmas.ResponderAnnounce
/-
  The timely run of one registration (`lifecycle`: the registration iteration, then iterations at
  exactly the wake-ups the daemon asks for) and the packets C07 expects of it; and that run computed
  for `register(web)` on `eth0`.  The step lemmas are about this one registration: every time in
  them (start, jitter, the probes' start and next send, the interface check) is a variable, the
  service and the interface are not.

  For a jitter `j ≥ 1` the daemon passes through two shapes of state: while it probes, the two
  probes (instance name, host name); once it has announced, the active records and the queued
  repeat.  One timely iteration from each shape is computed (`send_step`, `end_step`,
  `resend_step`) and the run follows by rewriting (`lifecycle_web_run`).  With `j = 0` the first
  query leaves in the registration iteration itself and the run has another shape: that one case
  is evaluated.

  The namespace is `Mdns.Props.C07`: the run and the expected packets are the definitions the
  statements of C07 are written with.
-/
namespace Mdns.Props.C07
open Mdns Mdns.Responder

/-- iterations at exactly the wake-ups the daemon asks for: (time, outputs) -/
def timelyRun (j : Nat) : Nat → State → Nat → List (Nat × List Out)
  | 0, _, _ => []
  | n + 1, s, now =>
    (now, (iter s { now := now, jitter := j }).2) ::
      match wake (iter s { now := now, jitter := j }).1 with
      | some w => timelyRun j n (iter s { now := now, jitter := j }).1 (max w now)
      | none => []

/-- a fresh daemon with one interface, `register(svc)` processed at `t0` under jitter `j`, then
    six iterations at the requested wake-ups -/
def lifecycle (i : MyIntf) (svc : Service) (t0 j : Nat) : List (Nat × List Out) :=
  (t0, (iter (init t0 [i]) { now := t0, jitter := j, cmds := [.register svc] }).2) ::
    match wake (iter (init t0 [i]) { now := t0, jitter := j, cmds := [.register svc] }).1 with
    | some w => timelyRun j 6 (iter (init t0 [i]) { now := t0, jitter := j, cmds := [.register svc] }).1 (max w t0)
    | none => []

def isSend : Out → Bool
  | .send .. => true
  | _ => false

/-- every packet of a run with its time -/
def sendsAt (l : List (Nat × List Out)) : List (Nat × Out) := l.flatMap fun (t, o) => (o.filter isSend).map fun x => (t, x)

def families (i : MyIntf) : List Bool := [true, false].filter i.hasFamily

/-- the probe query: `ANY` for the instance name and for the host name, authorities = TXT, SRV,
    the address records of both families -/
def expectedProbe (i : MyIntf) (svc : Service) : Packet :=
  { flags := 0, questions := [(svc.fullname, TYPE_ANY), (svc.host, TYPE_ANY)],
    authorities := ((uniqueRecords svc i {} true).take 2).foldl (fun l a => insertRR a l) [] ++
      ((uniqueRecords svc i {} true).drop 2 ++ (uniqueRecords svc i {} false).drop 2).foldl (fun l a => insertRR a l) [] }

/-- the announcement over one family: PTR (and subtype PTR), SRV, TXT, addresses of the family -/
def expectedAnnounce (i : MyIntf) (svc : Service) (v4 : Bool) : Packet :=
  { flags := FLAGS_RESPONSE, answers := ptrRecords svc svc.fullname TTL_OTHER ++ uniqueRecords svc i {} v4 }

/-- the packets the property asks for, with their times -/
def expectedSends (i : MyIntf) (svc : Service) (t0 j : Nat) : List (Nat × Out) :=
  ([t0 + j, t0 + j + 250, t0 + j + 500].flatMap fun t =>
    (families i).map fun v4 => (t, Out.send i.index v4 none (expectedProbe i svc))) ++
  ([t0 + j + 750, t0 + j + 1750].flatMap fun t =>
    ((families i).filter fun v4 => !(addrsOn svc i v4).isEmpty).map fun v4 =>
      (t, Out.send i.index v4 none (expectedAnnounce i svc v4)))

/-! ### `web` on `eth0`, any start time and jitter -/

def webTxt : RR := { name := web.fullname, ty := 16, flush := true, ttl := 4500, rdata := .txt [0] }
def webSrv : RR := { name := web.fullname, ty := 33, flush := true, ttl := 120, rdata := .srv 0 0 80 web.host }
def webA : RR := { name := web.host, ty := 1, flush := true, ttl := 120, rdata := .a [192, 168, 1, 20] }

/-- the earliest of the interface-check timer and `k + 1` timers for an earlier instant -/
theorem min?_cons_replicate (ipc nx k : Nat) (h : nx ≤ ipc) : (ipc :: List.replicate (k + 1) nx).min? = some nx := by
  rw [List.min?_cons', List.replicate_succ, List.foldl_cons, Nat.min_eq_right h]
  induction k with
  | zero => rfl
  | succ k ih => rw [List.replicate_succ, List.foldl_cons, Nat.min_self]; exact ih

theorem filter_gt_replicate (now nx k : Nat) (h : nx ≤ now) : (List.replicate k nx).filter (· > now) = [] := by
  simp [Nat.not_lt.mpr h]

/-- the registry of `eth0` while `web` is probed -/
def probingReg (st nx : Nat) : Registry :=
  { probing := [(web.fullname, ⟨[webTxt, webSrv], [web.fullname], st, nx⟩), (web.host, ⟨[webA], [web.fullname], st, nx⟩)] }

/-- the registry of `eth0` once the records of `web` are active -/
abbrev activeReg : Registry := { active := [(web.fullname, [webTxt, webSrv]), (web.host, [webA])] }

/-- the daemon while `web` is probed: besides the interface check at `ipc`, `k` timers for the next send -/
def probingSt (st nx k ipc : Nat) : State :=
  { intfs := [eth0], registries := [(2, probingReg st nx)], services := [(web.fullname, web.setStatus 2 .probing)],
    timers := ipc :: List.replicate k nx, nextIpCheck := ipc }

/-- the daemon once `web` is announced, with the repeats queued for the instants `ts` -/
def announcedSt (ts : List Nat) (ipc : Nat) : State :=
  { intfs := [eth0], registries := [(2, activeReg)], services := [(web.fullname, (web.setStatus 2 .probing).setStatus 2 .announced)],
    reruns := ts.map fun t => .registerResend t web.fullname 2, timers := ipc :: ts, nextIpCheck := ipc }

theorem wake_probingSt (st nx k ipc : Nat) (h : nx ≤ ipc) : wake (probingSt st nx (k + 1) ipc) = some nx :=
  min?_cons_replicate ipc nx k h

theorem eth0_index : eth0.index = 2 := rfl
theorem lower_web : lower web.fullname = web.fullname := by decide
theorem web_addrs4 : addrsOn web eth0 true = [[192, 168, 1, 20]] := by decide
theorem web_addrs6 : addrsOn web eth0 false = [] := by decide

theorem web_uniq4 (r : Registry) (h : r.nameChanges = []) : uniqueRecords web eth0 r true = [webSrv, webTxt, webA] := by
  simp only [uniqueRecords, h, alookup, withChange, Registry.resolveName]
  decide

theorem web_prepare4 (now j : Nat) :
    prepareAnnounceReg web eth0 {} true now j = { probingReg (now + j) (now + j) with newTimers := [now + j, now + j, now + j] } := by
  simp +decide [prepareAnnounceReg, web_uniq4, Registry.probingDoneReg, Registry.isActive, Registry.probeInsert, Probe.join,
    Probe.restarts, Probe.new, alookup, aset, insertRR, sinsert, probingReg]

theorem web_prepare4_active (now j : Nat) : prepareAnnounceReg web eth0 activeReg true now j = activeReg := by
  simp +decide [prepareAnnounceReg, web_uniq4, Registry.probingDoneReg, Registry.isActive]

theorem web_prepare6 (r : Registry) (now j : Nat) : prepareAnnounceReg web eth0 r false now j = r := by
  simp [prepareAnnounceReg, web_addrs6]

theorem web_pkt4_active : prepareAnnouncePkt web eth0 activeReg true = some (expectedAnnounce eth0 web true) := by decide

theorem web_pkt6 (r : Registry) : prepareAnnouncePkt web eth0 r false = none := by
  simp [prepareAnnouncePkt, web_addrs6]

/-- the registration iteration under a jitter `j ≥ 1`: both probes are created for `t0 + j`, nothing is sent -/
theorem reg_step (t0 j : Nat) (hj : 0 < j) :
    iter (init t0 [eth0]) { now := t0, jitter := j, cmds := [.register web] } =
      (probingSt (t0 + j) (t0 + j) 3 (t0 + 5000), []) := by
  have h1 : ¬ (t0 + j ≤ t0) := by omega
  rw [iter_register _ _ _ _ rfl, registerService_eq _ _ _ _ (by decide : Names.checkServiceNameLength web.ty 15 = .ok ()) rfl]
  simp +decide [init, registerChecked, sendUnsolicited, unsolOnIntf, web_prepare4, web_prepare6, web_pkt6,
    (by decide : prepareAnnouncePkt web eth0 {} true = none), lower_web,
    loopTail, runReruns, probingHandler, probingOnIntf, probingSt, probingReg, checkProbing, Probe.action, Probe.expired, Probe.step,
    handleExpiredProbes, probeSends, drainNewTimers, runIpCheck, State.registry, State.setRegistry, alookup, aset,
    eth0_index, h1]

/-- one step of the timely run: the iteration at `now`, then on at the wake-up it asks for -/
theorem timelyRun_step {j n now w : Nat} {s s' : State} {o : List Out} (h : iter s (idle now j) = (s', o))
    (hw : wake s' = some w) (hle : now ≤ w) : timelyRun j (n + 1) s now = (now, o) :: timelyRun j n s' w := by
  simp only [timelyRun, show ({ now := now, jitter := j } : Input) = idle now j from rfl, h, hw, Nat.max_eq_left hle]

/-- the iteration at the instant both probes are due, before their end: one query for both names,
    the next one 250 ms later -/
theorem send_step (st nx k ipc j n : Nat) (h2 : nx < st + 750) (h3 : nx + 250 ≤ ipc) :
    timelyRun j (n + 1) (probingSt st nx k ipc) nx =
      (nx, [Out.send 2 true none (expectedProbe eth0 web)]) :: timelyRun j n (probingSt st (nx + 250) 2 ipc) (nx + 250) := by
  refine timelyRun_step ?_ (wake_probingSt _ _ 1 _ h3) (by omega)
  rw [iter_idle _ _ _ rfl]
  have h2' : ¬ (st + 750 ≤ nx) := by omega
  have h3' : ¬ (ipc ≤ nx) := by omega
  have h5 : nx < ipc := by omega
  have h4 : ipc ≠ 0 := by omega
  simp +decide [loopTail, runReruns, probingHandler, probingOnIntf, probingSt, probingReg, checkProbing, Probe.action, Probe.expired,
    Probe.step, handleExpiredProbes, probeSends, drainNewTimers, runIpCheck, State.registry, State.setRegistry, alookup, aset,
    eth0_index, filter_gt_replicate nx nx k (Nat.le_refl _), h2', h3', h4, h5]

/-- the iteration that ends both probes: the records become active, `web` is woken and announced,
    the repeat is queued for one second later -/
theorem end_step (st nx k ipc j n : Nat) (h2 : st + 750 ≤ nx) (h3 : nx + 1000 ≤ ipc) :
    timelyRun j (n + 1) (probingSt st nx k ipc) nx =
      (nx, [Out.send 2 true none (expectedAnnounce eth0 web true)]) :: timelyRun j n (announcedSt [nx + 1000] ipc) (nx + 1000) := by
  refine timelyRun_step ?_ (min?_cons_replicate ipc _ 0 h3) (by omega)
  rw [iter_idle _ _ _ rfl]
  have h3' : ¬ (ipc ≤ nx) := by omega
  have h5 : nx < ipc := by omega
  have h4 : ipc ≠ 0 := by omega
  simp +decide [loopTail, runReruns, probingHandler, probingOnIntf, probingSt, probingReg, checkProbing, Probe.action, Probe.expired,
    Probe.step, handleExpiredProbes, expireProbe, probeSends, drainNewTimers, runIpCheck, State.registry, State.setRegistry, alookup,
    aset, aerase, sinsert, wakeService, lower_web, prepareAnnounceReg_setStatus, prepareAnnouncePkt_setStatus, web_prepare4_active,
    web_pkt4_active, web_prepare6, web_pkt6, notify, sendsOf, announcedSt, eth0_index, filter_gt_replicate nx nx k (Nat.le_refl _), h2, h3', h4, h5]

/-- the iteration at the instant the queued repeat is due: the announcement leaves again; next is the interface check -/
theorem resend_step (t ipc j n : Nat) (h3 : t < ipc) :
    timelyRun j (n + 1) (announcedSt [t] ipc) t =
      (t, [Out.send 2 true none (expectedAnnounce eth0 web true)]) :: timelyRun j n (announcedSt [] ipc) ipc := by
  refine timelyRun_step ?_ (show wake (announcedSt [] ipc) = some ipc from rfl) (by omega)
  rw [iter_idle _ _ _ rfl]
  have h3' : ¬ (ipc ≤ t) := by omega
  have h4 : ipc ≠ 0 := by omega
  simp +decide [loopTail, runReruns, execRerun, execRegisterResend, ReRun.next, probingHandler, probingOnIntf, checkProbing,
    handleExpiredProbes, probeSends, drainNewTimers, runIpCheck, State.registry, State.setRegistry, alookup, aset,
    lower_web, prepareAnnounceReg_setStatus, prepareAnnouncePkt_setStatus, web_prepare4_active, web_pkt4_active, web_prepare6, web_pkt6,
    notify, sendsOf, announcedSt, eth0_index, h3, h3', h4]

/-- with nothing queued and nothing probed the last iteration sends nothing -/
theorem quiet_step (now ipc j : Nat) : timelyRun j 1 (announcedSt [] ipc) now = [(now, [])] := by
  have h : (iter (announcedSt [] ipc) (idle now j)).2 = [] := by
    rw [iter_idle _ _ _ rfl]
    simp +decide [loopTail, runReruns, probingHandler, probingOnIntf, checkProbing, handleExpiredProbes, probeSends, drainNewTimers,
      State.registry, State.setRegistry, alookup, aset, announcedSt, eth0_index]
  simp only [timelyRun, show ({ now := now, jitter := j } : Input) = idle now j from rfl, h]
  split <;> rfl

/-- the timely run of `register(web)` on `eth0` at any `t0` under any jitter `1 ≤ j < 250` -/
theorem lifecycle_web_run (t0 j : Nat) (h0 : 0 < j) (hj : j < 250) :
    lifecycle eth0 web t0 j =
      [(t0, []), (t0 + j, [.send 2 true none (expectedProbe eth0 web)]), (t0 + j + 250, [.send 2 true none (expectedProbe eth0 web)]),
       (t0 + j + 500, [.send 2 true none (expectedProbe eth0 web)]), (t0 + j + 750, [.send 2 true none (expectedAnnounce eth0 web true)]),
       (t0 + j + 1750, [.send 2 true none (expectedAnnounce eth0 web true)]), (t0 + 5000, [])] := by
  simp (disch := omega) only [lifecycle, reg_step, wake_probingSt, Nat.max_eq_left, send_step, end_step, resend_step, quiet_step]

theorem lifecycle_web (t0 j : Nat) (h0 : 0 < j) (hj : j < 250) :
    sendsAt (lifecycle eth0 web t0 j) = expectedSends eth0 web t0 j := by
  rw [lifecycle_web_run t0 j h0 hj]
  simp +decide [sendsAt, expectedSends, isSend, List.filter, families, eth0_index,
    (by decide : eth0.hasFamily true = true), (by decide : eth0.hasFamily false = false), web_addrs4]

set_option maxRecDepth 100000 in
/-- `lifecycle_web` at the start time `1000000` of C07's statements, with the jitter 0 (another shape of run) evaluated -/
theorem lifecycle_web_lt (j : Nat) (hj : j < 250) :
    sendsAt (lifecycle eth0 web 1000000 j) = expectedSends eth0 web 1000000 j := by
  cases j with
  | zero => decide +kernel
  | succ j => exact lifecycle_web _ _ (Nat.succ_pos j) hj

end Mdns.Props.C07
