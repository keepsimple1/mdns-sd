import Mdns.Lemmas.Client
/-
  The folds over packets / commands split at a position, what the last eviction steps leave
  in the cache, entry-wise invariants of the cache (`CacheAll`) and predicates closed under
  every cache operation (`CacheOpsClosed`) as instances of the table-wise walk, and the
  passage of a predicate on caches through the ingress phase.
-/
namespace Mdns.Client
open Mdns Mdns.Rec Mdns.Cache

@[simp] theorem handleResponse_cache (s : State) (now : Nat) (intf : Intf) (m : Wire.Msg) :
    (handleResponse s now intf m).1.cache =
      (ingestAll s.queriers intf.name intf.idx now (isForUs s m.answers)
        { cache := s.cache, timers := [], changes := [], outs := [] }
        (m.answers ++ m.authorities ++ m.additionals)).cache := by
  simp only [handleResponse, resolveUpdated_cache, addTimers_cache]

theorem ingress_append (now : Nat) : ∀ (a b : List Packet) (s : State),
    ingress s now (a ++ b) =
      ((ingress (ingress s now a).1 now b).1, (ingress s now a).2 ++ (ingress (ingress s now a).1 now b).2)
  | [], b, s => by simp [ingress]
  | p :: a, b, s => by
    simp only [List.cons_append, ingress]
    rw [ingress_append now a b]
    simp only [List.append_assoc]

theorem runCommands_append (now : Nat) : ∀ (a b : List Command) (s : State),
    runCommands s now (a ++ b) =
      ((runCommands (runCommands s now a).1 now b).1,
       (runCommands s now a).2 ++ (runCommands (runCommands s now a).1 now b).2)
  | [], b, s => by simp [runCommands]
  | c :: a, b, s => by
    simp only [List.cons_append, runCommands]
    rw [runCommands_append now a b]
    simp only [List.append_assoc]

theorem deliveries_append (now : Nat) : ∀ (a b : List Packet) (s : State),
    deliveries s now (a ++ b) = deliveries s now a ++ deliveries (ingress s now a).1 now b
  | [], b, s => by simp [deliveries, ingress]
  | p :: a, b, s => by
    simp only [List.cons_append, deliveries, ingress]
    rw [deliveries_append now a b]
    simp only [List.append_assoc]

/-- an output of the ingress phase is an output of one datagram, read in the state the
    datagrams before it left -/
theorem mem_ingress_outs (now : Nat) (o : Out) : ∀ (pkts : List Packet) (s : State), o ∈ (ingress s now pkts).2 →
    ∃ pre p post, pkts = pre ++ p :: post ∧ o ∈ (handleRead (ingress s now pre).1 now p).2
  | [], _, h => by simp [ingress] at h
  | p :: rest, s, h => by
    simp only [ingress, List.mem_append] at h
    rcases h with h | h
    · exact ⟨[], p, rest, rfl, h⟩
    · obtain ⟨pre, q, post, hp, ho⟩ := mem_ingress_outs now o rest _ h
      refine ⟨p :: pre, q, post, by simp [hp], ?_⟩
      simpa [ingress] using ho

/-- an output of the command phase is an output of one command, executed in the state the
    commands before it left -/
theorem mem_runCommands_outs (now : Nat) (o : Out) : ∀ (cmds : List Command) (s : State),
    o ∈ (runCommands s now cmds).2 →
    ∃ pre c post, cmds = pre ++ c :: post ∧ o ∈ (execCommand (runCommands s now pre).1 now c).2
  | [], _, h => by simp [runCommands] at h
  | c :: rest, s, h => by
    simp only [runCommands, List.mem_append] at h
    rcases h with h | h
    · exact ⟨[], c, rest, rfl, h⟩
    · obtain ⟨pre, q, post, hp, ho⟩ := mem_runCommands_outs now o rest _ h
      refine ⟨c :: pre, q, post, by simp [hp], ?_⟩
      simpa [runCommands] using ho

/-- every entry of every table of the cache -/
def CacheAll (Q : Entry → Prop) (c : Cache) : Prop := ∀ s : Slot, ∀ p ∈ c.table s, ∀ e ∈ p.2, Q e

theorem CacheAll.mono {Q Q' : Entry → Prop} (h : ∀ e, Q e → Q' e) {c : Cache} (hc : CacheAll Q c) : CacheAll Q' c :=
  fun s p hp e he => h e (hc s p hp e he)

theorem cacheAll_empty (Q : Entry → Prop) : CacheAll Q {} := by
  intro s p hp
  cases s <;> simp [Cache.table] at hp

/-- after `evict_expired_services` and `evict_expired_addr` at `now` every cached entry has
    `expires > now` and no name is left without entries -/
theorem evict_allLive (c : Cache) (now : Nat) :
    CacheAll (fun e => now < e.record.expires) (evictAddr (evictServices c now).1 now).1 ∧
    ∀ s : Slot, ∀ p ∈ ((evictAddr (evictServices c now).1 now).1).table s, p.2 ≠ [] := by
  rw [evictServices_fst]
  have ha : ∀ (t : Table) (p : BList × List Entry), p ∈ evictTable now t →
      (∀ e ∈ p.2, now < e.record.expires) ∧ p.2 ≠ [] := by
    intro t p hp
    obtain ⟨k, es'⟩ := p
    obtain ⟨es, _, h2, h3⟩ := (mem_evictTable now t k es').mp hp
    refine ⟨?_, h3⟩
    intro e he
    simp only [h2] at he
    exact (live_iff now e).mp (List.mem_filter.mp he).2
  refine ⟨?_, ?_⟩
  · intro s p hp e he
    cases s
    · exact (ha _ p hp).1 e he
    · exact (ha _ p hp).1 e he
    · exact (ha _ p hp).1 e he
    · exact (ha _ p hp).1 e he
    · exact (ha _ p hp).1 e he
  · intro s p hp
    cases s
    · exact (ha _ p hp).2
    · exact (ha _ p hp).2
    · exact (ha _ p hp).2
    · exact (ha _ p hp).2
    · exact (ha _ p hp).2

/-- the cache an iteration leaves: the cache before the eviction phases, evicted -/
theorem iter_cache_evicted (s : State) (now : Nat) (pkts : List Packet) (cmds : List Command) :
    ∃ c, (iter s now pkts cmds).1.cache = (evictAddr (evictServices c now).1 now).1 := by
  simp only [iter_eq, runIpCheck_cache, preIp, evictAddrPhase, evictAddrHosts_cache, evictServicesPhase]
  exact ⟨_, rfl⟩

/-- **Evicted at once**: after an iteration at `now` every cached entry has `expires > now`,
    and no name is left without entries. -/
theorem iter_allLive (s : State) (now : Nat) (pkts : List Packet) (cmds : List Command) :
    CacheAll (fun e => now < e.record.expires) (iter s now pkts cmds).1.cache ∧
    ∀ sl : Slot, ∀ p ∈ (iter s now pkts cmds).1.cache.table sl, p.2 ≠ [] := by
  obtain ⟨c, hc⟩ := iter_cache_evicted s now pkts cmds
  rw [hc]
  exact evict_allLive c now

def TableAll (Q : Entry → Prop) (t : Table) : Prop := ∀ p ∈ t, ∀ e ∈ p.2, Q e

theorem cacheAll_iff (Q : Entry → Prop) (c : Cache) :
    CacheAll Q c ↔ TableAll Q c.ptr ∧ TableAll Q c.srv ∧ TableAll Q c.txt ∧ TableAll Q c.addr ∧ TableAll Q c.nsec := by
  constructor
  · intro h
    exact ⟨h .ptr, h .srv, h .txt, h .addr, h .nsec⟩
  · rintro ⟨h1, h2, h3, h4, h5⟩ s
    cases s
    · exact h1
    · exact h2
    · exact h3
    · exact h4
    · exact h5

theorem TableAll.sub {Q : Entry → Prop} {t t' : Table} (h : TableAll Q t) (hs : ∀ p ∈ t', p ∈ t) : TableAll Q t' :=
  fun p hp e he => h p (hs p hp) e he

theorem TableAll.erase {Q : Entry → Prop} {t : Table} (h : TableAll Q t) (k : BList) : TableAll Q (t.erase k) :=
  h.sub fun _ hp => (List.mem_filter.mp hp).1

theorem TableAll.modify {Q : Entry → Prop} {t : Table} (h : TableAll Q t) (k : BList) (f : List Entry → List Entry)
    (hf : ∀ es, (∀ e ∈ es, Q e) → ∀ e ∈ f es, Q e) : TableAll Q (t.modify k f) := by
  intro p' hp' e' he'
  simp only [Table.modify, List.mem_map] at hp'
  obtain ⟨p, hp, rfl⟩ := hp'
  split at he'
  · exact hf p.2 (h p hp) e' he'
  · exact h p hp e' he'

theorem TableAll.set {Q : Entry → Prop} {t : Table} (h : TableAll Q t) (k : BList) (v : List Entry)
    (hv : ∀ e ∈ v, Q e) : TableAll Q (t.set k v) := by
  intro p hp e he
  rcases Table.mem_set t k v p hp with rfl | hp
  · exact hv e he
  · exact h p hp e he

theorem TableAll.evictTable {Q : Entry → Prop} {t : Table} (h : TableAll Q t) (now : Nat) :
    TableAll Q (Cache.evictTable now t) := by
  intro p hp e he
  obtain ⟨k, es'⟩ := p
  obtain ⟨es, hes, h2, _⟩ := (mem_evictTable now t k es').mp hp
  simp only [h2] at he
  exact h (k, es) hes e (List.mem_filter.mp he).1

theorem tableAll_getD {Q : Entry → Prop} {t : Table} (h : TableAll Q t) (k : BList) : ∀ e ∈ (t.get k).getD [], Q e := by
  intro e he
  obtain ⟨p, hp, _, hpe⟩ := mem_getD t k e he
  exact h p hp e hpe

theorem TableAll.map {Q : Entry → Prop} {t : Table} (h : TableAll Q t) (k : BList) {g : Entry → Entry}
    (hg : ∀ e, Q e → Q (g e)) : TableAll Q (t.modify k fun es => es.map g) :=
  h.modify k _ fun _ hes _ he =>
    let ⟨e0, he0, e1⟩ := List.mem_map.mp he
    e1 ▸ hg e0 (hes e0 he0)

theorem cacheAll_removeServiceType {Q : Entry → Prop} {c : Cache} (h : CacheAll Q c) (ty : BList) :
    CacheAll Q (removeServiceType c ty) :=
  tables_removeServiceType (T := fun _ => TableAll Q) (fun _ _ k h => h.erase k) c ty h

theorem cacheAll_serviceVerifyQueries {Q : Entry → Prop} {c : Cache} (h : CacheAll Q c) (inst : BList)
    (at_ : Option Nat) (hq : ∀ t e, at_ = some t → Q e → Q (soonerEntry t e)) :
    CacheAll Q (serviceVerifyQueries c inst at_).1 :=
  tables_serviceVerifyQueries (T := fun _ => TableAll Q) c inst at_ (fun d e _ _ k h => h.map k fun x => hq d x e) h

/-- `add_or_update`: the entries afterwards are old ones (possibly flushed), the matching one
    with its TTL reset, or the new one -/
theorem cacheAll_addOrUpdate {Q : Entry → Prop} {c : Cache} (h : CacheAll Q c) (srcName : BList) (srcIdx : Nat)
    (inc : Record) (now : Nat) (forUs : Bool)
    (hflush : ∀ e, Q e → Q (flushOne inc now e))
    (hreset : ∀ e, Q e → e.record.matchesRec inc = true → Q { e with record := e.record.resetTtl inc })
    (hnew : Q ⟨inc, srcName, srcIdx⟩) :
    CacheAll Q (addOrUpdate c srcName srcIdx inc now forUs).cache := by
  refine tables_addOrUpdate (T := fun _ => TableAll Q) c srcName srcIdx inc now forUs (fun s t _ ht => ?_) h
  have hold : ∀ e ∈ (t.get (keyOf s inc.name)).getD [], Q e := tableAll_getD ht _
  refine ⟨ht.set _ _ hold, ht.set _ _ fun e' he' => ?_⟩
  have hfl : ∀ e ∈ flushList inc now ((t.get (keyOf s inc.name)).getD []), Q e := by
    intro e he
    unfold flushList at he
    split at he
    · obtain ⟨e0, he0, rfl⟩ := List.mem_map.mp he
      exact hflush e0 (hold e0 he0)
    · exact hold e he
  unfold upsert at he'
  split at he'
  · rcases mem_resetFirst _ _ _ he' with h2 | ⟨e0, he0, hm, rfl⟩
    · exact hfl e' h2
    · exact hreset e0 (hfl e0 he0) hm
  · rcases List.mem_cons.mp he' with rfl | h2
    · exact hnew
    · exact hfl e' h2

theorem cacheAll_refreshDueResolutions {Q : Entry → Prop} {c : Cache} (h : CacheAll Q c) (host : BList) (now : Nat)
    (hq : ∀ e, Q e → Q { e with record := e.record.refreshNoMore }) : CacheAll Q (refreshDueResolutions c host now).1 :=
  tables_refreshDueResolutions (T := fun _ => TableAll Q)
    (fun _ _ _ k h => h.map k fun e he => by
      split
      · exact hq e he
      · exact he) c host h

theorem cacheAll_refreshResolversGo {Q : Entry → Prop} (now : Nat)
    (hq : ∀ e, Q e → Q { e with record := e.record.refreshNoMore }) : ∀ (l : List BList) (c : Cache),
    CacheAll Q c → CacheAll Q (refreshResolversGo c now l).1
  | [], _, h => h
  | hst :: rest, c, h => by
    simp only [refreshResolversGo]
    exact cacheAll_refreshResolversGo now hq rest _ (cacheAll_refreshDueResolutions h hst now hq)

theorem cacheAll_evictServices {Q : Entry → Prop} {c : Cache} (h : CacheAll Q c) (now : Nat) :
    CacheAll Q (evictServices c now).1 :=
  tables_evictServices (T := fun _ => TableAll Q) (fun _ _ h => h.evictTable now) c h

theorem cacheAll_evictAddr {Q : Entry → Prop} {c : Cache} (h : CacheAll Q c) (now : Nat) :
    CacheAll Q (evictAddr c now).1 :=
  tables_evictAddr (T := fun _ => TableAll Q) (fun _ _ h => h.evictTable now) c h

theorem mem_insertSet (l : List BList) (x y : BList) : y ∈ insertSet l x ↔ y ∈ l ∨ y = x := by
  unfold insertSet
  split
  · rename_i h
    have hx : x ∈ l := by simpa using h
    constructor
    · exact Or.inl
    · rintro (h | rfl)
      · exact h
      · exact hx
  · simp

-- the form `closed_iter` (ClientWf) takes and Props/C20 states; the phases after ingress need only `PhasesClosed`
-- (Lemmas/Client), and `CacheOpsClosed.phases` converts
/-- `P` survives every cache operation an iteration at `now` can perform -/
structure CacheOpsClosed (P : Cache → Prop) (now : Nat) : Prop where
  add : ∀ c srcName srcIdx inc forUs, P c → P (addOrUpdate c srcName srcIdx inc now forUs).cache
  remove : ∀ c ty, P c → P (removeServiceType c ty)
  verify : ∀ c inst at_, P c → P (serviceVerifyQueries c inst at_).1
  refreshPtr : ∀ c ty, P c → P (refreshDuePtr c ty now).1
  refreshSrvTxt : ∀ c ty, P c → P (refreshDueSrvTxt c ty now).cache
  refreshHosts : ∀ c ty, P c → P (refreshDueHosts c ty now).cache
  refreshRes : ∀ c h, P c → P (refreshDueResolutions c h now).1
  evictS : ∀ c, P c → P (evictServices c now).1
  evictA : ∀ c, P c → P (evictAddr c now).1

variable {P : Cache → Prop} {now : Nat}

theorem CacheOpsClosed.phases (h : CacheOpsClosed P now) : PhasesClosed P now :=
  ⟨h.remove, fun c inst _ => h.verify c inst _, h.refreshPtr, h.refreshSrvTxt, h.refreshHosts, h.refreshRes, h.evictS,
   h.evictA⟩

theorem cacheOpsClosed_of_tables {T : Slot → Table → Prop} {now : Nat}
    (hadd : ∀ c srcName srcIdx inc forUs, (∀ sl, T sl (c.table sl)) →
      ∀ sl, T sl ((addOrUpdate c srcName srcIdx inc now forUs).cache.table sl))
    (herase : ∀ sl t k, T sl t → T sl (t.erase k))
    (hsooner : ∀ d sl t k, T sl t → T sl (t.modify k fun es => es.map (soonerEntry d)))
    (hrefresh : ∀ sl t k, T sl t → T sl (t.modify k fun es => (refreshEntries now es).1))
    (hnomore : ∀ (due : Entry → Bool) sl t k, T sl t →
      T sl (t.modify k fun es => es.map fun e => if due e then { e with record := e.record.refreshNoMore } else e))
    (hevict : ∀ sl t, T sl t → T sl (evictTable now t)) : CacheOpsClosed (fun c => ∀ sl, T sl (c.table sl)) now :=
  have h := phasesClosed_of_tables herase (fun d => hsooner (now + d)) hrefresh hnomore hevict
  ⟨hadd, h.remove, fun c inst at_ => tables_serviceVerifyQueries c inst at_ fun d _ => hsooner d, h.refreshPtr,
   h.refreshSrvTxt, h.refreshHosts, h.refreshRes, h.evictS, h.evictA⟩

theorem cacheAll_phases {Q : Entry → Prop} (now : Nat)
    (hq : ∀ e, Q e → Q { e with record := e.record.refreshed now })
    (hq2 : ∀ e, Q e → Q { e with record := e.record.refreshNoMore })
    (hs : ∀ t e, Q e → Q (soonerEntry (now + t) e)) : PhasesClosed (CacheAll Q) now :=
  phasesClosed_of_tables (T := fun _ => TableAll Q) (fun _ _ k h => h.erase k) (fun d _ _ k h => h.map k (hs d))
    (fun _ _ k h => h.map k hq)
    (fun due _ _ k h => h.map k fun e he => by
      split
      · exact hq2 e he
      · exact he)
    (fun _ _ h => h.evictTable now)

theorem closed_ingress
    (hadd : ∀ c ifName ifIdx r forUs, P c → P (addOrUpdate c ifName ifIdx (ofWire ifName ifIdx now r) now forUs).cache) :
    ∀ (pkts : List Packet) (s : State), P s.cache → P (ingress s now pkts).1.cache
  | [], _, hp => hp
  | p :: rest, s, hp => by
    have hall : ∀ q ifName ifIdx forUs (rs : List Wire.Rec) (acc : Ingest), P acc.cache →
        P (ingestAll q ifName ifIdx now forUs acc rs).cache := by
      intro q ifName ifIdx forUs rs
      induction rs with
      | nil => exact fun _ h => h
      | cons r rest ih =>
        intro acc h
        simp only [ingestAll]
        apply ih
        rw [ingestOne_cache]
        exact hadd _ _ _ _ _ h
    simp only [ingress]
    apply closed_ingress hadd rest
    rcases handleRead_cases s now p with h | ⟨intf, h⟩ <;> rw [h]
    · exact hp
    · rw [handleResponse_cache]
      exact hall _ _ _ _ _ _ hp

end Mdns.Client
