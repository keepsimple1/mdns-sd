import Mdns.Model.Responder
/-
  The base of the responder lemmas: association lists and folds, and the functions of the loop by
  cases - each case an equation about variables - with the induction principles that go with them.
-/
namespace Mdns.Responder
open Mdns

/-! ### association lists -/

section alist
variable {κ α : Type} [DecidableEq κ]

theorem alookup_aset_self (k : κ) (v : α) (l : List (κ × α)) : alookup k (aset k v l) = some v := by
  fun_induction aset k v l <;> simp_all [alookup]

theorem alookup_aset_ne (k k' : κ) (v : α) (l : List (κ × α)) (h : k' ≠ k) :
    alookup k' (aset k v l) = alookup k' l := by
  fun_induction aset k v l <;> simp_all [alookup, Ne.symm h]

theorem alookup_mem {k : κ} {v : α} {l : List (κ × α)} (h : alookup k l = some v) : (k, v) ∈ l := by
  fun_induction alookup k l <;> simp_all

theorem mem_aset {k : κ} {v : α} {l : List (κ × α)} {x : κ × α} (h : x ∈ aset k v l) : x = (k, v) ∨ x ∈ l := by
  induction l with
  | nil => simp [aset] at h; exact Or.inl h
  | cons e l ih =>
    obtain ⟨k', v'⟩ := e
    by_cases h1 : k' = k
    · simp [aset, h1] at h
      rcases h with h | h
      · exact Or.inl h
      · exact Or.inr (List.mem_cons_of_mem _ h)
    · simp [aset, h1] at h
      rcases h with h | h
      · exact Or.inr (by simp [h])
      · rcases ih h with h | h
        · exact Or.inl h
        · exact Or.inr (List.mem_cons_of_mem _ h)

theorem mem_aerase {k : κ} {l : List (κ × α)} {x : κ × α} (h : x ∈ aerase k l) : x ∈ l := by
  simp only [aerase, List.mem_filter] at h
  exact h.1

theorem alookup_aerase_self (k : κ) (l : List (κ × α)) : alookup k (aerase k l) = none := by
  induction l with
  | nil => simp [aerase, alookup]
  | cons e l ih =>
    obtain ⟨k', v'⟩ := e
    by_cases h : k' = k
    · simpa [aerase, List.filter_cons, h] using ih
    · simpa [aerase, List.filter_cons, h, alookup] using ih

theorem alookup_aerase_ne (k k' : κ) (l : List (κ × α)) (h : k' ≠ k) : alookup k' (aerase k l) = alookup k' l := by
  induction l with
  | nil => simp [aerase, alookup]
  | cons e l ih =>
    obtain ⟨k'', v''⟩ := e
    by_cases h1 : k'' = k
    · subst h1
      have h2 : ¬ k'' = k' := fun e => h e.symm
      simpa [aerase, List.filter_cons, alookup, h2] using ih
    · by_cases h2 : k'' = k'
      · subst h2
        simp [aerase, h1, alookup]
      · simpa [aerase, List.filter_cons, h1, alookup, h2] using ih

theorem alookup_none_of_not_mem {k : κ} {l : List (κ × α)} (h : ∀ v, (k, v) ∉ l) : alookup k l = none := by
  cases hl : alookup k l with
  | none => rfl
  | some v => exact absurd (alookup_mem hl) (h v)

/-- the keys of an association list are pairwise different (a `HashMap`) -/
def KeysNodup (l : List (κ × α)) : Prop := (l.map Prod.fst).Nodup

theorem keys_aset (k : κ) (v : α) (l : List (κ × α)) :
    (aset k v l).map Prod.fst = if k ∈ l.map Prod.fst then l.map Prod.fst else l.map Prod.fst ++ [k] := by
  induction l with
  | nil => simp [aset]
  | cons e l ih =>
    obtain ⟨k', v'⟩ := e
    by_cases h : k' = k
    · subst h; simp [aset]
    · have h' : ¬ k = k' := fun e => h e.symm
      simp only [aset, h, ↓reduceIte, List.map_cons, ih, List.mem_cons, h', false_or]
      split <;> simp

theorem KeysNodup.aset {l : List (κ × α)} (h : KeysNodup l) (k : κ) (v : α) : KeysNodup (aset k v l) := by
  unfold KeysNodup at *
  rw [keys_aset]
  split
  · exact h
  · rename_i hk
    rw [List.nodup_append]
    refine ⟨h, by simp, ?_⟩
    intro a ha b hb
    simp only [List.mem_cons, List.not_mem_nil, or_false] at hb
    subst hb
    intro e
    exact hk (e ▸ ha)

theorem KeysNodup.aerase {l : List (κ × α)} (h : KeysNodup l) (k : κ) : KeysNodup (aerase k l) := by
  unfold KeysNodup at *
  exact List.Nodup.sublist (List.Sublist.map _ List.filter_sublist) h

omit [DecidableEq κ] in
theorem KeysNodup.mapVal {l : List (κ × α)} (h : KeysNodup l) (f : κ → α → α) :
    KeysNodup (l.map fun e => (e.1, f e.1 e.2)) := by
  unfold KeysNodup at *
  simpa [List.map_map, Function.comp_def] using h

theorem alookup_of_mem {l : List (κ × α)} (h : KeysNodup l) {k : κ} {v : α} (hm : (k, v) ∈ l) : alookup k l = some v := by
  induction l with
  | nil => simp at hm
  | cons e l ih =>
    obtain ⟨k', v'⟩ := e
    unfold KeysNodup at h
    simp only [List.map_cons, List.nodup_cons] at h
    rcases List.mem_cons.mp hm with heq | hin
    · cases heq
      simp [alookup]
    · have hk : k' ≠ k := by
        intro e
        subst e
        exact h.1 (List.mem_map.mpr ⟨(k', v), hin, rfl⟩)
      simp only [alookup, hk, ↓reduceIte]
      exact ih h.2 hin

theorem alookup_mapVal (k : κ) (f : κ → α → α) (l : List (κ × α)) :
    alookup k (l.map fun e => (e.1, f e.1 e.2)) = (alookup k l).map (f k) := by
  induction l with
  | nil => rfl
  | cons e l ih =>
    obtain ⟨k', v'⟩ := e
    by_cases h : k' = k
    · subst h; simp [alookup]
    · simp [alookup, h, ih]

end alist

theorem alookup_none_not_mem {κ α : Type} [DecidableEq κ] {k : κ} {l : List (κ × α)} (h : alookup k l = none) :
    ∀ e ∈ l, e.1 ≠ k := by
  induction l with
  | nil => intro e he; cases he
  | cons x rest ih =>
    intro e he
    simp only [alookup] at h
    split at h
    · cases h
    · rename_i hx
      rcases List.mem_cons.mp he with rfl | he
      · exact hx
      · exact ih h e he

theorem mem_sinsert {α} [DecidableEq α] (x y : α) (l : List α) : y ∈ sinsert x l ↔ y = x ∨ y ∈ l := by
  unfold sinsert
  split <;> simp_all [or_comm]

theorem foldl_sinsert_mem (w : BList) : ∀ (l acc0 : List BList), w ∈ l ∨ w ∈ acc0 → w ∈ l.foldl (fun w x => sinsert x w) acc0 := by
  intro l
  induction l with
  | nil => intro acc0 h; simpa using h
  | cons x l ih =>
    intro acc0 h
    simp only [List.foldl_cons]
    apply ih
    rcases h with h | h
    · rcases List.mem_cons.mp h with rfl | h
      · exact Or.inr ((mem_sinsert _ _ _).mpr (Or.inl rfl))
      · exact Or.inl h
    · exact Or.inr ((mem_sinsert _ _ _).mpr (Or.inr h))

theorem mem_insertRR (a x : RR) (l : List RR) : x ∈ insertRR a l ↔ x = a ∨ x ∈ l := by
  fun_induction insertRR a l <;> simp_all [or_left_comm]

/-- a fold keeps what every step keeps -/
theorem foldl_inv {α β} (P : β → Prop) (f : β → α → β) (l : List α) (b : β) (h0 : P b)
    (hstep : ∀ b a, a ∈ l → P b → P (f b a)) : P (l.foldl f b) := by
  induction l generalizing b with
  | nil => exact h0
  | cons a l ih =>
    simp only [List.foldl_cons]
    exact ih (f b a) (hstep b a (by simp) h0) (fun b x hx hb => hstep b x (List.mem_cons_of_mem _ hx) hb)

/-! ### registries -/

theorem registry_setRegistry_self (s : State) (i : Nat) (r : Registry) : (s.setRegistry i r).registry i = r := by
  simp [State.registry, State.setRegistry, alookup_aset_self]

theorem registry_setRegistry_ne (s : State) (i j : Nat) (r : Registry) (h : j ≠ i) :
    (s.setRegistry i r).registry j = s.registry j := by
  simp [State.registry, State.setRegistry, alookup_aset_ne _ _ _ _ h]

theorem registry_of_lookup {s : State} {i : Nat} {r : Registry} (h : alookup i s.registries = some r) :
    s.registry i = r := by simp [State.registry, h]

theorem registry_of_none {s : State} {i : Nat} (h : alookup i s.registries = none) : s.registry i = {} := by
  simp [State.registry, h]

theorem registry_congr {s s' : State} (h : s'.registries = s.registries) (idx : Nat) : s'.registry idx = s.registry idx := by
  simp [State.registry, h]

/-! ### `prepare_announce` -/

/-- `prepare_announce` only puts unique records that are not active into probes, and only for a
    service that requires probing and has an address of the family: what `probeInsert` keeps
    then, it keeps -/
theorem prepareAnnounceReg_ind_branch {P : Registry → Prop} (s : Service) (i : MyIntf) (v4 : Bool) (now j : Nat) {r : Registry}
    (h : P r)
    (hstep : s.probe = true → addrsOn s i v4 ≠ [] → ∀ b, ∀ a ∈ uniqueRecords s i r v4, b.isActive a = false → P b →
      P (b.probeInsert a s.fullname (now + j))) :
    P (prepareAnnounceReg s i r v4 now j) := by
  unfold prepareAnnounceReg
  split
  · exact h
  · rename_i hne
    split
    · exact h
    · rename_i hpr
      refine foldl_inv P _ _ _ h (fun x a ha hx => ?_)
      unfold Registry.probingDoneReg
      split
      · exact hx
      · exact hstep (by simpa using hpr) hne x a ha (Bool.eq_false_iff.mpr ‹_›) hx

theorem prepareAnnounceReg_ind {P : Registry → Prop} (s : Service) (i : MyIntf) (v4 : Bool) (now j : Nat) {r : Registry} (h : P r)
    (hstep : ∀ b, ∀ a ∈ uniqueRecords s i r v4, b.isActive a = false → P b → P (b.probeInsert a s.fullname (now + j))) :
    P (prepareAnnounceReg s i r v4 now j) :=
  prepareAnnounceReg_ind_branch s i v4 now j h fun _ _ => hstep

/-- the registry after the two calls of `announce_service_on_intf` (IPv4, then IPv6) -/
abbrev announcePair (svc : Service) (i : MyIntf) (r : Registry) (now j : Nat) : Registry :=
  prepareAnnounceReg svc i (prepareAnnounceReg svc i r true now j) false now j

theorem announce_pair_ind {P : Registry → Prop} (s : Service) (i : MyIntf) (now j : Nat) {r : Registry} (h : P r)
    (hstep : ∀ r a, P r → P (r.probeInsert a s.fullname (now + j))) :
    P (announcePair s i r now j) :=
  prepareAnnounceReg_ind s i false now j (prepareAnnounceReg_ind s i true now j h fun b a _ _ => hstep b a)
    fun b a _ _ => hstep b a

/-! ### `wakeService` -/

theorem wakeService_cases (now j : Nat) (i : MyIntf) (acc : State × List Out) (name : BList) :
    wakeService now j i acc name = acc ∨
    ∃ svc, alookup (lower name) acc.1.services = some svc ∧ svc.announcedOn i.index = false ∧
      (wakeService now j i acc name =
        (acc.1.setRegistry i.index
          (announcePair svc i (acc.1.registry i.index) now j), acc.2) ∨
       ((prepareAnnouncePkt svc i (acc.1.registry i.index) true).isSome ||
          (prepareAnnouncePkt svc i (prepareAnnounceReg svc i (acc.1.registry i.index) true now j) false).isSome) = true ∧
       wakeService now j i acc name =
        ({ (acc.1.setRegistry i.index
              (announcePair svc i (acc.1.registry i.index) now j)) with
            services := aset (lower name) (svc.setStatus i.index .announced) acc.1.services,
            reruns := acc.1.reruns ++ [.registerResend (now + 1000) svc.fullname i.index],
            timers := acc.1.timers ++ [now + 1000] },
         acc.2 ++ sendsOf i (prepareAnnouncePkt svc i (acc.1.registry i.index) true)
             (prepareAnnouncePkt svc i (prepareAnnounceReg svc i (acc.1.registry i.index) true now j) false) ++
           notify acc.1 (.announceAt
             ((announcePair svc i (acc.1.registry i.index) now j).resolveName name)
             ((announcePair svc i (acc.1.registry i.index) now j).resolveName svc.host)
             i.name))) := by
  unfold wakeService
  simp only []
  split
  · exact Or.inl rfl
  · rename_i svc hsvc
    split
    · exact Or.inl rfl
    · rename_i hann
      refine Or.inr ⟨svc, hsvc, Bool.eq_false_iff.mpr hann, ?_⟩
      split
      · rename_i hsent
        exact Or.inr ⟨hsent, rfl⟩
      · exact Or.inl rfl

/-! ### the body of `probing_handler` for one interface -/

/-- the daemon and its outputs after `check_probing` and `handle_expired_probes` on the registry
    `r` of interface `i`, before the services that waited are woken -/
def probed (now : Nat) (acc : State × List Out) (i : MyIntf) (r : Registry) : State × List Out :=
  ({ (acc.1.setRegistry i.index (handleExpiredProbes (checkProbing r now).expired i.name (checkProbing r now).reg).1) with
       timers := acc.1.timers ++ (checkProbing r now).timers },
   acc.2 ++ probeSends i (checkProbing r now) ++
     (handleExpiredProbes (checkProbing r now).expired i.name (checkProbing r now).reg).2.1.flatMap (notify acc.1))

theorem probed_registry_self (now : Nat) (acc : State × List Out) (i : MyIntf) (r : Registry) :
    (probed now acc i r).1.registry i.index =
      (handleExpiredProbes (checkProbing r now).expired i.name (checkProbing r now).reg).1 :=
  registry_setRegistry_self _ _ _

theorem probed_registry_ne (now : Nat) (acc : State × List Out) (i : MyIntf) (r : Registry) {idx : Nat} (h : idx ≠ i.index) :
    (probed now acc i r).1.registry idx = acc.1.registry idx :=
  registry_setRegistry_ne _ _ _ _ h

theorem probingOnIntf_none {now j : Nat} {acc : State × List Out} {i : MyIntf} (h : alookup i.index acc.1.registries = none) :
    probingOnIntf now j acc i = acc := by
  rw [probingOnIntf, h]

theorem probingOnIntf_some {now j : Nat} {acc : State × List Out} {i : MyIntf} {r : Registry}
    (h : alookup i.index acc.1.registries = some r) :
    probingOnIntf now j acc i = drainNewTimers i.index
      ((handleExpiredProbes (checkProbing r now).expired i.name (checkProbing r now).reg).2.2.foldl (wakeService now j i)
        (probed now acc i r)) := by
  rw [probingOnIntf, h]
  rfl

/-- the body of `probing_handler` for `i`: what holds of `acc` when the interface has no registry,
    and otherwise holds after `check_probing` and `handle_expired_probes` and is kept by every
    wake-up and by arming the `new_timers`, holds of the result -/
theorem probingOnIntf_ind {P : State × List Out → Prop} (now j : Nat) (acc : State × List Out) (i : MyIntf)
    (h0 : alookup i.index acc.1.registries = none → P acc)
    (hp : ∀ r, alookup i.index acc.1.registries = some r → P (probed now acc i r))
    (hw : ∀ a nm, P a → P (wakeService now j i a nm)) (hd : ∀ a, P a → P (drainNewTimers i.index a)) :
    P (probingOnIntf now j acc i) := by
  cases h : alookup i.index acc.1.registries with
  | none => rw [probingOnIntf_none h]; exact h0 h
  | some r =>
    rw [probingOnIntf_some h]
    exact hd _ (foldl_inv P _ _ _ (hp r h) (fun a nm _ => hw a nm))

/-! ### `Probe::tiebreaking` -/

theorem tiebreak_cases (now : Nat) (auths : List Wire.Rec) (reg : Registry) (q : Wire.Question) :
    tiebreak now auths reg q = reg ∨
    ∃ k p, reg.probeKey q.name = some k ∧ alookup k reg.probing = some p ∧
      tiebreak now auths reg q = { reg with probing := aset k { p with start := now + 1000, next := now + 1000 } reg.probing } := by
  unfold tiebreak
  split
  · exact Or.inl rfl
  · split
    · exact Or.inl rfl
    · rename_i k hk
      split
      · exact Or.inl rfl
      · rename_i p hp
        split
        · exact Or.inl rfl
        · split
          · exact Or.inr ⟨k, p, hk, hp, rfl⟩
          · exact Or.inl rfl

/-! ### `exec_command_register_resend` -/

theorem execRegisterResend_cases (s : State) (now j : Nat) (fullname : BList) (ifIdx : Nat) :
    execRegisterResend s now j fullname ifIdx = (s, []) ∨
    ∃ svc r0 i, alookup (lower fullname) s.services = some svc ∧ alookup ifIdx s.registries = some r0 ∧
      s.intfs.find? (·.index == ifIdx) = some i ∧
      (execRegisterResend s now j fullname ifIdx =
        (s.setRegistry ifIdx (announcePair svc i r0 now j), []) ∨
       ((prepareAnnouncePkt svc i r0 true).isSome ||
          (prepareAnnouncePkt svc i (prepareAnnounceReg svc i r0 true now j) false).isSome) = true ∧
       execRegisterResend s now j fullname ifIdx =
        ({ (s.setRegistry ifIdx (announcePair svc i r0 now j)) with
            services := aset (lower fullname) (svc.setStatus ifIdx .announced) s.services },
         sendsOf i (prepareAnnouncePkt svc i r0 true) (prepareAnnouncePkt svc i (prepareAnnounceReg svc i r0 true now j) false) ++
           notify s (.announceAt
             ((announcePair svc i r0 now j).resolveName fullname)
             ((announcePair svc i r0 now j).resolveName svc.host) i.name))) := by
  unfold execRegisterResend
  split
  · rename_i svc r0 i hsvc hr0 hi
    refine Or.inr ⟨svc, r0, i, hsvc, hr0, hi, ?_⟩
    simp only []
    split
    · rename_i hsent
      exact Or.inr ⟨hsent, rfl⟩
    · exact Or.inl rfl
  · exact Or.inl rfl

theorem execRerun_registerResend (now j : Nat) (acc : State × List Out) (t : Nat) (f : BList) (k : Nat) :
    execRerun now j acc (.registerResend t f k) =
      ((execRegisterResend acc.1 now j f k).1, acc.2 ++ (execRegisterResend acc.1 now j f k).2) := rfl

/-! ### the interface-check block -/

theorem runIpCheck_cases (s : State) (now : Nat) :
    (runIpCheck s now = s ∧ (s.nextIpCheck = 0 ∧ s.ipInterval = 0 ∨ now < s.nextIpCheck)) ∨
    (runIpCheck s now = { s with nextIpCheck := 0 } ∧ s.ipInterval = 0) ∨
    (runIpCheck s now = { s with nextIpCheck := now + s.ipInterval, timers := s.timers ++ [now + s.ipInterval] } ∧
      0 < s.ipInterval ∧ s.nextIpCheck ≤ now) := by
  unfold runIpCheck
  split
  · rename_i hdue
    simp only [Bool.and_eq_true, decide_eq_true_eq] at hdue
    split
    · rename_i hpos
      exact Or.inr (Or.inr ⟨rfl, hpos, hdue.1⟩)
    · rename_i hpos
      exact Or.inr (Or.inl ⟨rfl, Nat.eq_zero_of_not_pos hpos⟩)
  · rename_i hnot
    simp only [Bool.and_eq_true, decide_eq_true_eq] at hnot
    split
    · rename_i hoff
      simp only [Bool.and_eq_true, beq_iff_eq, decide_eq_true_eq] at hoff
      exact Or.inr (Or.inr ⟨rfl, hoff.2, hoff.1 ▸ Nat.zero_le _⟩)
    · rename_i hoff
      simp only [Bool.and_eq_true, beq_iff_eq, decide_eq_true_eq] at hoff
      exact Or.inl ⟨rfl, by omega⟩

/-! ### `check_probing`, `handle_expired_probes` -/

theorem checkProbing_probing (r : Registry) (now : Nat) :
    (checkProbing r now).reg.probing = r.probing.map fun e => (e.1, (fun _ p => Probe.step p now) e.1 e.2) := rfl

theorem expireProbe_probing (intfName : BList) (acc : Registry × List Event × List BList) (name : BList) :
    (expireProbe intfName acc name).1.probing = acc.1.probing ∨
    (expireProbe intfName acc name).1.probing = aerase name acc.1.probing := by
  unfold expireProbe
  split
  · exact Or.inl rfl
  · split <;> exact Or.inr rfl

/-! ### one iteration -/

theorem iter_stopped {s : State} (inp : Input) (h : s.stopped = true) : iter s inp = (s, []) := by
  simp [iter, h]

/-- the daemon and the outputs of the commands after the datagrams, `pop_timers_till` and the
    commands of an iteration -/
def afterCmds (s : State) (inp : Input) : State × List Out :=
  inp.cmds.foldl (execCommand inp.now inp.jitter)
    ({ (inp.rx.foldl (handleRead inp.now inp.jitter) (s, [])).1 with
         timers := (inp.rx.foldl (handleRead inp.now inp.jitter) (s, [])).1.timers.filter (· > inp.now) }, [])

theorem iter_cases (s : State) (inp : Input) :
    ((iter s inp).1.stopped = true ∧ ((iter s inp).1 = s ∨ (iter s inp).1 = (afterCmds s inp).1)) ∨
    ((afterCmds s inp).1.stopped = false ∧
      (iter s inp).1 = runIpCheck (probingHandler (runReruns (afterCmds s inp).1 inp.now inp.jitter).1 inp.now inp.jitter).1 inp.now) := by
  unfold iter
  split
  · rename_i hst
    exact Or.inl ⟨hst, Or.inl rfl⟩
  · simp only []
    split
    · rename_i hst
      refine Or.inl ⟨hst, Or.inr ?_⟩
      dsimp only [afterCmds]
    · rename_i hrun
      refine Or.inr ⟨Bool.eq_false_iff.mpr hrun, ?_⟩
      dsimp only [afterCmds]

end Mdns.Responder
