import Mdns.Model.Sched
/-
  Lemmas about the scheduler model: one schedule per type / host (C19), no query without a search (C13).
  `OnePer` carries the list arguments, for this model and for the client model (`Client.OneEachC`).
-/
namespace Mdns.Sched
open Mdns

/-- number of queued re-runs that belong to the browse of `ty` -/
def browseCount (s : State) (ty : BList) : Nat := (s.reruns.filter (isBrowseOf ty)).length
/-- number of queued re-runs that belong to the resolution of the host with lower-case name `key` -/
def resolveCount (s : State) (key : BList) : Nat := (s.reruns.filter (isResolveOf key)).length

theorem filter_not_self {α} (p : α → Bool) (l : List α) : (l.filter (fun r => !p r)).filter p = [] := by
  induction l with
  | nil => rfl
  | cons a l ih =>
    by_cases h : p a <;> simp [h, ih]

theorem filter_filter_comm {α} (p q : α → Bool) (l : List α) :
    (l.filter p).filter q = (l.filter q).filter p := by
  simp [List.filter_filter, Bool.and_comm]

/-- at most one element per key; elements without a key are not counted.  The invariant "one queued
    re-run per search" is this for both models: `Sched.OneEach` (stated with `isBrowseOf` /
    `isResolveOf`, `oneEach_iff`) for the scheduler fragment with `Sched.skey`, and `Client.OneEachC`
    (definitionally `OnePer (fun r => Client.skey r.cmd)`) for the client model, whose follow-ups and
    verify resends have no key. -/
def OnePer {α κ : Type} [BEq κ] (key : α → Option κ) (l : List α) : Prop :=
  ∀ k, (l.filter fun a => key a == some k).length ≤ 1

section OnePer
variable {α κ : Type} [BEq κ] {key : α → Option κ}

theorem OnePer.sub {l l' : List α} (h : OnePer key l) (hs : l'.Sublist l) : OnePer key l' :=
  fun k => Nat.le_trans (hs.filter _).length_le (h k)

theorem OnePer.filter {l : List α} (h : OnePer key l) (p : α → Bool) : OnePer key (l.filter p) :=
  h.sub List.filter_sublist

theorem OnePer.append_none {l : List α} (h : OnePer key l) (extra : List α) (he : ∀ a ∈ extra, key a = none) :
    OnePer key (l ++ extra) := by
  intro k
  have : extra.filter (fun a => key a == some k) = [] :=
    List.filter_eq_nil_iff.mpr fun a ha => by simp [he a ha]
  rw [List.filter_append, this, List.append_nil]
  exact h k

variable [LawfulBEq κ]

theorem OnePer.append_new {l : List α} (h : OnePer key l) (a : α) (k0 : κ) (hk : key a = some k0)
    (h0 : l.filter (fun x => key x == some k0) = []) : OnePer key (l ++ [a]) := by
  intro k
  simp only [List.filter_append, List.length_append]
  by_cases e : k = k0
  · subst e
    simp [h0, hk]
  · have : (key a == some k) = false := by
      rw [hk]
      simpa using fun e' => e e'.symm
    simp only [List.filter_cons, this, Bool.false_eq_true, if_false, List.filter_nil, List.length_nil, Nat.add_zero]
    exact h k

theorem OnePer.remove_mid {keep rest : List α} {a : α} (h : OnePer key (keep ++ a :: rest)) :
    OnePer key (keep ++ rest) ∧ ∀ k0, key a = some k0 → (keep ++ rest).filter (fun x => key x == some k0) = [] := by
  have hsub : ∀ p : α → Bool, ((keep ++ a :: rest).filter p).length =
      ((keep ++ rest).filter p).length + (if p a then 1 else 0) := by
    intro p
    simp only [List.filter_append, List.length_append, List.filter_cons]
    split <;> simp <;> omega
  refine ⟨fun k => ?_, fun k0 hk => ?_⟩
  · have := h k
    rw [hsub] at this
    omega
  · have := h k0
    rw [hsub] at this
    simp only [hk, beq_self_eq_true, if_true] at this
    exact List.eq_nil_of_length_eq_zero (by omega)

/-- a due element is taken out and may be replaced, at the end, by one of the same key -/
theorem OnePer.replace_mid {keep rest app : List α} {a : α} (h : OnePer key (keep ++ a :: rest))
    (happ : app = [] ∨ ∃ a', app = [a'] ∧ key a' = key a) : OnePer key (keep ++ (rest ++ app)) := by
  have hrm := h.remove_mid
  rw [← List.append_assoc]
  rcases happ with rfl | ⟨a', rfl, hk⟩
  · simpa using hrm.1
  · cases hsk : key a with
    | none => exact hrm.1.append_none [a'] (fun x hx => by rw [List.mem_singleton.mp hx, hk, hsk])
    | some k0 => exact hrm.1.append_new a' k0 (hk.trans hsk) (hrm.2 k0 hsk)

end OnePer

/-- at most one queued re-run per browsed type and per resolved host -/
def OneEach (l : List Rerun) : Prop :=
  (∀ ty, (l.filter (isBrowseOf ty)).length ≤ 1) ∧ (∀ key, (l.filter (isResolveOf key)).length ≤ 1)

theorem OneEach.nil : OneEach [] := ⟨fun _ => Nat.zero_le _, fun _ => Nat.zero_le _⟩

theorem isBrowseOf_browse (ty ty' : BList) (n d ch : Nat) :
    isBrowseOf ty' ⟨n, .browse ty d ch⟩ = (ty == ty') := rfl
theorem isResolveOf_browse (key ty : BList) (n d ch : Nat) :
    isResolveOf key ⟨n, .browse ty d ch⟩ = false := rfl
theorem isBrowseOf_resolve (ty h : BList) (n d ch : Nat) :
    isBrowseOf ty ⟨n, .resolveHost h d ch⟩ = false := rfl
theorem isResolveOf_resolve (key h : BList) (n d ch : Nat) :
    isResolveOf key ⟨n, .resolveHost h d ch⟩ = (lower h == key) := rfl

/-- as `Client.skey` -/
def skey : RCmd → Option (Bool × BList)
  | .browse ty _ _ => some (false, ty)
  | .resolveHost h _ _ => some (true, lower h)

theorem some_pair_beq (b : Bool) (x y : BList) : (some (b, x) == some (b, y)) = (x == y) := by
  rw [Bool.eq_iff_iff]
  simp

theorem isBrowseOf_iff (ty : BList) (r : Rerun) : isBrowseOf ty r = (skey r.cmd == some (false, ty)) := by
  obtain ⟨n, c⟩ := r
  cases c
  · exact (some_pair_beq false _ ty).symm
  · rfl

theorem isResolveOf_iff (key : BList) (r : Rerun) : isResolveOf key r = (skey r.cmd == some (true, key)) := by
  obtain ⟨n, c⟩ := r
  cases c
  · rfl
  · exact (some_pair_beq true _ key).symm

theorem oneEach_iff (l : List Rerun) : OneEach l ↔ OnePer (fun r => skey r.cmd) l := by
  constructor
  · intro h k
    obtain ⟨b, x⟩ := k
    cases b
    · rw [← List.filter_congr fun r _ => isBrowseOf_iff x r]
      exact h.1 x
    · rw [← List.filter_congr fun r _ => isResolveOf_iff x r]
      exact h.2 x
  · intro h
    refine ⟨fun ty => ?_, fun key => ?_⟩
    · rw [List.filter_congr fun r _ => isBrowseOf_iff ty r]
      exact h (false, ty)
    · rw [List.filter_congr fun r _ => isResolveOf_iff key r]
      exact h (true, key)

theorem OneEach.filter {l : List Rerun} (h : OneEach l) (p : Rerun → Bool) : OneEach (l.filter p) :=
  (oneEach_iff _).mpr (((oneEach_iff _).mp h).filter p)

theorem purged_browse (ty : BList) (l : List Rerun) :
    (l.filter fun r => !isBrowseOf ty r).filter (fun r => skey r.cmd == some (false, ty)) = [] := by
  rw [← List.filter_congr fun r _ => isBrowseOf_iff ty r]
  exact filter_not_self _ _

theorem purged_resolve (key : BList) (l : List Rerun) :
    (l.filter fun r => !isResolveOf key r).filter (fun r => skey r.cmd == some (true, key)) = [] := by
  rw [← List.filter_congr fun r _ => isResolveOf_iff key r]
  exact filter_not_self _ _

theorem execCommand_one (s : State) (now : Nat) (c : Command) (h : OnePer (fun r => skey r.cmd) s.reruns) :
    OnePer (fun r => skey r.cmd) (execCommand s now c).1.reruns := by
  cases c with
  | browse ty ch co =>
    simp only [execCommand, execBrowse, Bool.false_eq_true, ↓reduceIte]
    split
    · exact h.filter _
    · exact (h.filter _).append_new _ (false, ty) rfl (purged_browse ty _)
  | stopBrowse ty =>
    simp only [execCommand, execStopBrowse]
    split
    · exact h
    · exact h.filter _
  | resolveHost host ch t =>
    have key : ∀ s1 : State, s1.reruns = s.reruns.filter (fun r => !isResolveOf (lower host) r) →
        OnePer (fun r => skey r.cmd) (if withinDeadline s1 (lower host) (now + 1 * 1000) then
          addRerun s1 (now + 1 * 1000) (.resolveHost host (nextDelay 1) ch) else s1).reruns := by
      intro s1 e
      split
      · simp only [addRerun, e]
        exact (h.filter _).append_new _ (true, lower host) rfl (purged_resolve (lower host) _)
      · rw [e]
        exact h.filter _
    simp only [execCommand, execResolve, Bool.false_and, Bool.false_eq_true, ↓reduceIte]
    exact key _ rfl
  | stopResolve host =>
    simp only [execCommand, execStopResolve]
    split
    · exact h
    · exact h.filter _
  | ipInterval ms => exact h

theorem runCommands_one (now : Nat) : ∀ (cs : List Command) (s : State), OnePer (fun r => skey r.cmd) s.reruns →
    OnePer (fun r => skey r.cmd) (runCommands s now cs).1.reruns
  | [], s, h => h
  | c :: cs, s, h => by
    simp only [runCommands]
    exact runCommands_one now cs _ (execCommand_one s now c h)

/-- the key a re-run belongs to: removing it leaves room for exactly one of the same key -/
def sameKey : Rerun → Rerun → Bool
  | ⟨_, .browse t _ _⟩, r => isBrowseOf t r
  | ⟨_, .resolveHost h _ _⟩, r => isResolveOf (lower h) r

theorem sameKey_eq (r r' : Rerun) : sameKey r r' = (skey r'.cmd == skey r.cmd) := by
  obtain ⟨n, c⟩ := r
  cases c
  · exact isBrowseOf_iff _ r'
  · exact isResolveOf_iff _ r'

theorem sameKey_self (r : Rerun) : sameKey r r = true := by
  rw [sameKey_eq]
  exact beq_self_eq_true _

theorem execRerun_browse (s : State) (now : Nat) (ty : BList) (d ch : Nat) :
    execRerun s now (.browse ty d ch) =
      (addRerun s (now + d * 1000) (.browse ty (nextDelay d) ch), [.event ch .started, .query [(ty, 12)]]) := rfl

theorem execRerun_resolveHost (s : State) (now : Nat) (h : BList) (d ch : Nat) :
    execRerun s now (.resolveHost h d ch) =
      if s.resolvers.any (·.1 == lower h) then
        (if withinDeadline s (lower h) (now + d * 1000) then
          addRerun s (now + d * 1000) (.resolveHost h (nextDelay d) ch) else s,
         [.event ch .hstarted, .query [(h, 1), (h, 28)]])
      else (s, []) := by
  cases hl : s.resolvers.any (·.1 == lower h) <;> simp [execRerun, execResolve, hl]

theorem execRerun_reruns (s : State) (hs : s.reruns = []) (now : Nat) (c : RCmd) :
    (execRerun s now c).1.reruns = [] ∨ ∃ r', (execRerun s now c).1.reruns = [r'] ∧ skey r'.cmd = skey c := by
  cases c with
  | browse ty d ch =>
    rw [execRerun_browse]
    exact Or.inr ⟨_, congrArg (· ++ [_]) hs, rfl⟩
  | resolveHost h d ch =>
    rw [execRerun_resolveHost]
    split
    · split
      · exact Or.inr ⟨_, congrArg (· ++ [_]) hs, rfl⟩
      · exact Or.inl hs
    · exact Or.inl hs

/-- an invariant of the queue (`keep ++ rest`) and a property of every output, through the re-run
    loop: a due re-run is taken out, executed on the empty queue, and what it queues goes to the end -/
theorem runReruns_induct {I : List Rerun → Prop} {Q : Out → Prop} (now : Nat)
    (step : ∀ (keep rest : List Rerun) (r : Rerun) (st : State), st.reruns = [] → now ≥ r.next → I (keep ++ r :: rest) →
      I (keep ++ (rest ++ (execRerun st now r.cmd).1.reruns)) ∧ ∀ o ∈ (execRerun st now r.cmd).2, Q o) :
    ∀ (fuel : Nat) (keep rest : List Rerun) (s : State), s.reruns = [] → I (keep ++ rest) →
      I (runReruns s now fuel keep rest).1.reruns ∧ ∀ o ∈ (runReruns s now fuel keep rest).2, Q o
  | 0, keep, rest, s, hs, h => by simpa [runReruns, hs] using h
  | fuel + 1, keep, [], s, hs, h => by simpa [runReruns, hs] using h
  | fuel + 1, keep, r :: rest, s, hs, h => by
    rw [runReruns]
    split
    · rename_i hdue
      obtain ⟨h1, q1⟩ := step keep rest r { s with reruns := [] } rfl hdue h
      obtain ⟨h2, q2⟩ := runReruns_induct now step fuel keep _
        { (execRerun { s with reruns := [] } now r.cmd).1 with reruns := [] } rfl h1
      exact ⟨h2, fun o ho => (List.mem_append.mp ho).elim (q1 o) (q2 o)⟩
    · exact runReruns_induct now step fuel (keep ++ [r]) rest s hs (by simpa using h)

theorem runIpCheck_reruns (s : State) (now : Nat) : (runIpCheck s now).reruns = s.reruns := by
  unfold runIpCheck
  repeat' split
  all_goals rfl

theorem iter_one (s : State) (now : Nat) (cmds : List Command) (h : OneEach s.reruns) :
    OneEach (iter s now cmds).1.reruns := by
  rw [oneEach_iff] at h ⊢
  unfold iter
  simp only [runIpCheck_reruns]
  have h1 := runCommands_one now cmds (runTimeouts { s with timers := s.timers.filter (· > now) } now).1 h
  generalize runCommands (runTimeouts { s with timers := s.timers.filter (· > now) } now).1 now cmds = m at h1 ⊢
  refine (runReruns_induct (Q := fun _ => True) now (fun keep rest r st hst _ h => ⟨?_, fun _ _ => trivial⟩)
    (m.1.reruns.length * 2 + 2) [] m.1.reruns { m.1 with reruns := [] } rfl h1).1
  exact h.replace_mid (execRerun_reruns st hst now r.cmd)

/-! ### no query for a type without a queued re-run or a new browse (C13) -/

/-- the query a browse of `ty` sends -/
def isQueryOf (ty : BList) : Out → Bool
  | .query qs => qs == [(ty, 12)]
  | _ => false

def NoBrowse (ty : BList) (l : List Rerun) : Prop := l.filter (isBrowseOf ty) = []

def isBrowseCmd (ty : BList) : Command → Bool
  | .browse t _ _ => t == ty
  | _ => false

theorem noBrowse_iff {ty : BList} {l : List Rerun} : NoBrowse ty l ↔ ∀ r ∈ l, isBrowseOf ty r = false := by
  simp [NoBrowse, List.filter_eq_nil_iff]

theorem NoBrowse.append {ty : BList} {a b : List Rerun} (ha : NoBrowse ty a) (hb : NoBrowse ty b) :
    NoBrowse ty (a ++ b) := by
  simp only [noBrowse_iff, List.forall_mem_append] at *
  exact ⟨ha, hb⟩

theorem execRerun_other (s : State) (hs : s.reruns = []) (now : Nat) (c : RCmd) (ty : BList)
    (hc : skey c ≠ some (false, ty)) :
    (execRerun s now c).2.all (fun o => !isQueryOf ty o) = true ∧
    NoBrowse ty (execRerun s now c).1.reruns := by
  constructor
  · cases c with
    | browse t d ch =>
      have hne : ¬ t = ty := fun e => hc (by rw [e]; rfl)
      simp [execRerun_browse, isQueryOf, hne]
    | resolveHost h d ch =>
      rw [execRerun_resolveHost]
      split <;> simp [isQueryOf]
  · -- what is queued continues the schedule of `c`
    rw [noBrowse_iff]
    rcases execRerun_reruns s hs now c with hnil | ⟨r', hr', hk⟩
    · rw [hnil]; nofun
    · rw [hr']
      intro r hr
      rw [List.mem_singleton.mp hr, isBrowseOf_iff, hk]
      simpa using hc

theorem execCommand_no_query (s : State) (now : Nat) (c : Command) (ty : BList)
    (hc : isBrowseCmd ty c = false) (h : NoBrowse ty s.reruns) :
    (execCommand s now c).2.all (fun o => !isQueryOf ty o) = true ∧
    NoBrowse ty (execCommand s now c).1.reruns := by
  have hfil : ∀ p : Rerun → Bool, NoBrowse ty (s.reruns.filter p) :=
    fun p => noBrowse_iff.mpr fun r hr => noBrowse_iff.mp h r (List.mem_filter.mp hr).1
  cases c with
  | browse t ch co =>
    have hne : (t == ty) = false := by simpa [isBrowseCmd] using hc
    have hne' : ¬ t = ty := by simpa using hne
    simp only [execCommand, execBrowse, Bool.false_eq_true, ↓reduceIte]
    split
    · exact ⟨by simp [isQueryOf], hfil _⟩
    · refine ⟨by simp [isQueryOf, hne'], ?_⟩
      simp only [addRerun]
      exact (hfil _).append (by simp [NoBrowse, isBrowseOf, hne])
  | stopBrowse t =>
    simp only [execCommand, execStopBrowse]
    split
    · exact ⟨by simp, h⟩
    · exact ⟨by simp [isQueryOf], hfil _⟩
  | resolveHost host ch t =>
    have key : ∀ s1 : State, s1.reruns = s.reruns.filter (fun r => !isResolveOf (lower host) r) →
        NoBrowse ty (if withinDeadline s1 (lower host) (now + 1 * 1000) then
          addRerun s1 (now + 1 * 1000) (.resolveHost host (nextDelay 1) ch) else s1).reruns := by
      intro s1 e
      split
      · simp only [addRerun, e]
        exact (hfil _).append rfl
      · rw [e]
        exact hfil _
    simp only [execCommand, execResolve, Bool.false_and, Bool.false_eq_true, ↓reduceIte]
    exact ⟨by simp [isQueryOf], key _ rfl⟩
  | stopResolve host =>
    simp only [execCommand, execStopResolve]
    split
    · exact ⟨by simp, h⟩
    · exact ⟨by simp [isQueryOf], hfil _⟩
  | ipInterval ms => exact ⟨by simp [execCommand], h⟩

theorem runCommands_no_query (now : Nat) (ty : BList) : ∀ (cs : List Command) (s : State),
    cs.all (fun c => !isBrowseCmd ty c) = true → NoBrowse ty s.reruns →
    (runCommands s now cs).2.all (fun o => !isQueryOf ty o) = true ∧
    NoBrowse ty (runCommands s now cs).1.reruns
  | [], s, _, h => by simp [runCommands, h]
  | c :: cs, s, hc, h => by
    simp only [List.all_cons, Bool.and_eq_true, Bool.not_eq_eq_eq_not, Bool.not_true] at hc
    have h1 := execCommand_no_query s now c ty hc.1 h
    have h2 := runCommands_no_query now ty cs (execCommand s now c).1 (by simpa using hc.2) h1.2
    simp only [runCommands, List.all_append, Bool.and_eq_true]
    exact ⟨⟨h1.1, h2.1⟩, h2.2⟩

/-- an iteration without a new `browse ty` on a state with nothing queued for `ty` sends no
    query for `ty` and leaves nothing queued for it -/
theorem iter_no_query (s : State) (now : Nat) (cmds : List Command) (ty : BList)
    (hc : cmds.all (fun c => !isBrowseCmd ty c) = true) (h : NoBrowse ty s.reruns) :
    (iter s now cmds).2.all (fun o => !isQueryOf ty o) = true ∧ NoBrowse ty (iter s now cmds).1.reruns := by
  unfold iter
  simp only [runIpCheck_reruns]
  have h1 := runCommands_no_query now ty cmds (runTimeouts { s with timers := s.timers.filter (· > now) } now).1
    hc h
  generalize runCommands (runTimeouts { s with timers := s.timers.filter (· > now) } now).1 now cmds = m at h1 ⊢
  have h2 := runReruns_induct (I := NoBrowse ty) (Q := fun o => (!isQueryOf ty o) = true) now ?step
    (m.1.reruns.length * 2 + 2) [] m.1.reruns { m.1 with reruns := [] } rfl h1.2
  case step =>
    -- a due re-run is not a browse of `ty`
    intro keep rest r st hst _ h
    rw [noBrowse_iff] at h
    have hr0 : isBrowseOf ty r = false := h r (by simp)
    have hex := execRerun_other st hst now r.cmd ty (by rw [isBrowseOf_iff] at hr0; simpa using hr0)
    refine ⟨noBrowse_iff.mpr fun x hx => ?_, List.all_eq_true.mp hex.1⟩
    simp only [List.mem_append] at hx
    rcases hx with hx | hx | hx
    · exact h x (by simp [hx])
    · exact h x (by simp [hx])
    · exact noBrowse_iff.mp hex.2 x hx
  refine ⟨?_, h2.1⟩
  simp only [List.all_append, Bool.and_eq_true]
  exact ⟨⟨by simp [runTimeouts, isQueryOf], h1.1⟩, List.all_eq_true.mpr h2.2⟩

end Mdns.Sched
