import Mdns.Lemmas.ResponderSched
/-
  How a registration creates the probe of a unique record: the two calls of
  `announce_service_on_intf` on the registry (`announce_pair_held/_creates/_watch`), the walk of
  `send_unsolicited_response` over the interfaces (`unsolOnIntf_spec`, `sendUnsolicited_creates`),
  the iteration that processed `register(svc)` (`registration_creates_probe`).  And the two
  announcements, per function (`wakeService_announces`, `registerResend_announces`).
-/
namespace Mdns.Responder
open Mdns

/-! ### a registration creates the probe -/

theorem Held.prepare {r : Registry} {a : RR} {w : BList} (h : Held r a w) (s : Service) (i : MyIntf) (v4 : Bool) (now j : Nat) :
    Held (prepareAnnounceReg s i r v4 now j) a w := by
  rcases h with h | ⟨p, hp, hany, hw⟩
  · exact Or.inl ((isActive_congr (prepareAnnounceReg_active s i r v4 now j).1 a).trans h)
  · obtain ⟨p2, hp2, hsub, hwsub, _⟩ := prepareAnnounceReg_grows s i r v4 now j _ p hp
    obtain ⟨b, hb, hm⟩ := List.any_eq_true.mp hany
    exact Or.inr ⟨p2, hp2, List.any_eq_true.mpr ⟨b, hsub b hb, hm⟩, hwsub _ hw⟩

/-- after the two calls of `announce_service_on_intf` every unique record of the service (of a family
    with an in-subnet address) is active or matched in the probe of its name, which the service waits for -/
theorem announce_pair_held (svc : Service) (i : MyIntf) (r0 : Registry) (now j : Nat) (hprobe : svc.probe = true)
    (v4 : Bool) (hne : addrsOn svc i v4 ≠ []) (a : RR) (ha : a ∈ uniqueRecords svc i r0 v4) :
    Held (announcePair svc i r0 now j) a svc.fullname := by
  cases v4 with
  | true => exact (prepare_registers_all svc i r0 true now j hprobe hne a ha).prepare svc i false now j
  | false =>
    exact prepare_registers_all svc i _ false now j hprobe hne a
      (by rw [uniqueRecords_congr (prepareAnnounceReg_active svc i r0 true now j).2]; exact ha)

/-- after the two calls of `announce_service_on_intf` the probe of a record that was not active, under a name
    that was not probed, is fresh at
    `now + jitter` -/
theorem announce_pair_creates (svc : Service) (i : MyIntf) (r0 : Registry) (now j : Nat) (v4 : Bool) (a : RR) (n : BList)
    (hprobe : svc.probe = true) (hne : addrsOn svc i v4 ≠ []) (ha : a ∈ uniqueRecords svc i r0 v4) (hname : a.getName = n)
    (hinactive : r0.isActive a = false) (hfresh : alookup n r0.probing = none) :
    ∃ p b, alookup n (announcePair svc i r0 now j).probing = some p ∧
      p.start = now + j ∧ p.next = now + j ∧ b ∈ p.records ∧ a.matchesRR b = true ∧ svc.fullname ∈ p.waiting := by
  rcases announce_pair_held svc i r0 now j hprobe v4 hne a ha with hact | ⟨p, hp, hany, hw⟩
  · rw [isActive_congr ((prepareAnnounceReg_active svc i _ false now j).1.trans (prepareAnnounceReg_active svc i r0 true now j).1),
      hinactive] at hact
    cases hact
  rw [hname] at hp
  obtain ⟨b, hb, hm⟩ := List.any_eq_true.mp hany
  -- whatever probe of `n` exists at the end is fresh
  suffices ht : p.start = now + j ∧ p.next = now + j from ⟨p, b, hp, ht.1, ht.2, hb, hm, hw⟩
  cases h1 : alookup n (prepareAnnounceReg svc i r0 true now j).probing with
  | none =>
    exact (prepareAnnounceReg_times svc i _ false now j n).1 h1 p hp
  | some q =>
    have hq := (prepareAnnounceReg_times svc i r0 true now j n).1 hfresh q h1
    obtain ⟨p', hp', hor⟩ := (prepareAnnounceReg_times svc i _ false now j n).2 q h1
    cases hp'.symm.trans hp
    rcases hor with ⟨e1, e2⟩ | ⟨e1, e2, _⟩
    · exact ⟨e1.trans hq.1, e2.trans hq.2⟩
    · exact ⟨e1, e2⟩

theorem Held.kept {r : Registry} {a : RR} {w : BList} (h : Held r a w) : Kept r a.getName a :=
  h.imp_right fun ⟨p, hp, hany, _⟩ => ⟨p, hp, hany⟩

/-- the step of `send_unsolicited_response` for one interface: what it keeps of the daemon and of the
    service, that it sends no query, that it touches the registry of that interface only, and
    there leaves the registry of the two `prepare_announce` calls (with `new_timers` drained or not) -/
theorem unsolOnIntf_spec (now j : Nat) (u : Unsol) (i : MyIntf) :
    (unsolOnIntf now j u i).state.intfs = u.state.intfs ∧ (unsolOnIntf now j u i).state.stopped = u.state.stopped ∧
    (unsolOnIntf now j u i).state.reruns = u.state.reruns ∧ (unsolOnIntf now j u i).state.services = u.state.services ∧
    (∀ o ∈ (unsolOnIntf now j u i).outs, o ∈ u.outs ∨ ∀ idx n, asksFor idx n o = false) ∧
    (∀ svc, UpToStatus u.svc svc → UpToStatus (unsolOnIntf now j u i).svc svc) ∧
    (∀ idx, i.index ≠ idx → (unsolOnIntf now j u i).state.registry idx = u.state.registry idx) ∧
    ∃ X, (unsolOnIntf now j u i).state.registry i.index =
      { (announcePair u.svc i (u.state.registry i.index) now j) with
        newTimers := X } := by
  unfold unsolOnIntf
  simp only []
  split
  · refine ⟨rfl, rfl, rfl, rfl, fun o ho => ?_, fun _ h => h.setStatus _ _,
      fun idx h => registry_setRegistry_ne _ _ _ _ (Ne.symm h), _, registry_setRegistry_self _ _ _⟩
    exact (List.mem_append.mp ho).imp_right fun ho idx n => sendsOf_not_asks u.svc i _ _ idx n o ho
  · exact ⟨rfl, rfl, rfl, rfl, fun o ho => Or.inl ho, fun _ h => h.setStatus _ _,
      fun idx h => (registry_congr (s := u.state.setRegistry i.index _) rfl idx).trans (registry_setRegistry_ne _ _ _ _ (Ne.symm h)),
      [], registry_setRegistry_self _ _ _⟩

/-- the registry-level part of `Watch` -/
def WatchR (r : Registry) (n : BList) (st nx : Nat) (R : Cargo) : Prop :=
  (∃ p, alookup n r.probing = some p ∧ p.start = st ∧ p.next = nx ∧ (∀ a ∈ R.recs, a ∈ p.records) ∧
    ∀ w ∈ R.waits, w ∈ p.waiting) ∧
  KeysNodup r.probing ∧ NoRen r ∧ alookup n r.active = R.act

/-- `unsolOnIntf_spec` for the whole walk of `send_unsolicited_response` over interfaces `l` -/
theorem foldl_unsolOnIntf_spec (now j : Nat) (l : List MyIntf) (u0 : Unsol) :
    (l.foldl (unsolOnIntf now j) u0).state.intfs = u0.state.intfs ∧ (l.foldl (unsolOnIntf now j) u0).state.stopped = u0.state.stopped ∧
    (l.foldl (unsolOnIntf now j) u0).state.reruns = u0.state.reruns ∧ (l.foldl (unsolOnIntf now j) u0).state.services = u0.state.services ∧
    (∀ o ∈ (l.foldl (unsolOnIntf now j) u0).outs, o ∈ u0.outs ∨ ∀ idx n, asksFor idx n o = false) ∧
    (∀ svc, UpToStatus u0.svc svc → UpToStatus (l.foldl (unsolOnIntf now j) u0).svc svc) ∧
    (∀ idx, (∀ i ∈ l, i.index ≠ idx) → (l.foldl (unsolOnIntf now j) u0).state.registry idx = u0.state.registry idx) :=
  foldl_inv (fun (u : Unsol) => u.state.intfs = u0.state.intfs ∧ u.state.stopped = u0.state.stopped ∧
      u.state.reruns = u0.state.reruns ∧ u.state.services = u0.state.services ∧
      (∀ o ∈ u.outs, o ∈ u0.outs ∨ ∀ idx n, asksFor idx n o = false) ∧ (∀ svc, UpToStatus u0.svc svc → UpToStatus u.svc svc) ∧
      (∀ idx, (∀ i ∈ l, i.index ≠ idx) → u.state.registry idx = u0.state.registry idx))
    (unsolOnIntf now j) l u0 ⟨rfl, rfl, rfl, rfl, fun _ h => Or.inl h, fun _ h => h, fun _ _ => rfl⟩
    fun u i hi ⟨h1, h2, h3, h4, h5, h6, h7⟩ => by
      obtain ⟨f1, f2, f3, f4, f5, f6, f7, _⟩ := unsolOnIntf_spec now j u i
      exact ⟨f1.trans h1, f2.trans h2, f3.trans h3, f4.trans h4, fun o ho => (f5 o ho).elim (h5 o) Or.inr,
        fun svc h => f6 svc (h6 svc h), fun idx hl => (f7 idx (hl i hi)).trans (h7 idx hl)⟩

theorem UpToStatus.same {u svc : Service} (h : UpToStatus u svc) : SvcSame u svc := ⟨h.uniq, h.addrs, h.probe, h.full⟩

/-- the two calls of `announce_service_on_intf` of a registration create the probe of a record that was not
    held, fresh at `now + jitter`, and leave no record of the service to come to it later -/
theorem announce_pair_watch (svc : Service) (i : MyIntf) (r0 : Registry) (now j : Nat) (v4 : Bool) (a : RR) (n : BList)
    (hprobe : svc.probe = true) (hne : addrsOn svc i v4 ≠ []) (ha : a ∈ uniqueRecords svc i r0 v4) (hname : a.getName = n)
    (hinactive : r0.isActive a = false) (hfresh : alookup n r0.probing = none) (hpn : KeysNodup r0.probing) (hnr : NoRen r0) :
    ∃ b, a.matchesRR b = true ∧ b.getName = n ∧
      WatchR (announcePair svc i r0 now j) n (now + j) (now + j)
        ⟨[b], [svc.fullname], alookup n r0.active⟩ ∧
      ∀ v4', addrsOn svc i v4' ≠ [] → ∀ a' ∈ uniqueRecords svc i {} v4', a'.getName = n →
        Kept (announcePair svc i r0 now j) n a' := by
  obtain ⟨p, b, hp, h1, h2, hb, hm, hwt⟩ := announce_pair_creates svc i r0 now j v4 a n hprobe hne ha hname hinactive hfresh
  have hnr2 := announce_pair_noRen svc i hnr now j
  have hbname : b.getName = n := by
    have hnm : a.name = b.name := by
      simp only [RR.matchesRR, Bool.and_eq_true, beq_iff_eq] at hm
      exact hm.1.1.1
    rw [← hname]
    simp [RR.getName, hnr2.2 n p (alookup_mem hp) b hb, uniqueRecords_newName svc i _ v4 hnr.1 a ha, hnm]
  refine ⟨b, hm, hbname, ⟨⟨p, hp, h1, h2, fun x hx => List.mem_singleton.mp hx ▸ hb, fun w hw => List.mem_singleton.mp hw ▸ hwt⟩,
      announce_pair_keysNodup svc i hpn now j, hnr2,
      by rw [(prepareAnnounceReg_active svc i _ false now j).1, (prepareAnnounceReg_active svc i _ true now j).1]⟩,
    fun v4' hne' a' ha' hn' => ?_⟩
  exact hn' ▸ (announce_pair_held svc i r0 now j hprobe v4' hne' a' (by rw [uniqueRecords_congr (r := {}) hnr.1]; exact ha')).kept

/-- `send_unsolicited_response` of a registration: the probe of `n` on interface `i` is created
    fresh at `now + jitter`, no record of the service is left to come to it, nothing else about
    the daemon that the schedule theorems need changes -/
theorem sendUnsolicited_creates (s : State) (svc : Service) (now j : Nat) (i : MyIntf) (l1 l2 : List MyIntf)
    (hi : IntfsOk s i l1 l2) (v4 : Bool) (a : RR) (n : BList)
    (hprobe : svc.probe = true) (hne : addrsOn svc i v4 ≠ [])
    (ha : a ∈ uniqueRecords svc i (s.registry i.index) v4) (hname : a.getName = n)
    (hinactive : (s.registry i.index).isActive a = false) (hfresh : alookup n (s.registry i.index).probing = none)
    (hpn : KeysNodup (s.registry i.index).probing) (hnr : NoRen (s.registry i.index)) (hok : RerunsOk s) :
    ∃ b, a.matchesRR b = true ∧ b.getName = n ∧
      WatchR ((sendUnsolicited s svc now j).state.registry i.index) n (now + j) (now + j)
        ⟨[b], [svc.fullname], alookup n (s.registry i.index).active⟩ ∧
      Ext n (s.registry i.index) ((sendUnsolicited s svc now j).state.registry i.index) ∧
      SvcSettled ((sendUnsolicited s svc now j).state.registry i.index) s.intfs i.index n svc ∧
      SvcSame (sendUnsolicited s svc now j).svc svc ∧
      (sendUnsolicited s svc now j).state.intfs = s.intfs ∧ (sendUnsolicited s svc now j).state.stopped = s.stopped ∧
      (sendUnsolicited s svc now j).state.services = s.services ∧
      RerunsOk (sendUnsolicited s svc now j).state ∧
      (∀ o ∈ (sendUnsolicited s svc now j).outs, ∀ idx n', asksFor idx n' o = false) := by
  unfold sendUnsolicited
  simp only []
  obtain ⟨fi, fs, fr, fv, fout, fsame, _⟩ := foldl_unsolOnIntf_spec now j s.intfs { state := s, svc := svc }
  -- the registry of `i`: untouched before and after the step for `i`, which leaves that of the two calls
  obtain ⟨_, _, _, _, _, same1, r1⟩ := foldl_unsolOnIntf_spec now j l1 { state := s, svc := svc }
  have r1 := r1 i.index fun i' h => hi.other i' (List.mem_append.mpr (Or.inl h))
  obtain ⟨X, hX⟩ : ∃ X, (unsolOnIntf now j (l1.foldl (unsolOnIntf now j) { state := s, svc := svc }) i).state.registry i.index =
      { (announcePair svc i (s.registry i.index) now j) with newTimers := X } := by
    obtain ⟨X, hX⟩ := (unsolOnIntf_spec now j (l1.foldl (unsolOnIntf now j) { state := s, svc := svc }) i).2.2.2.2.2.2.2
    obtain ⟨st, hst⟩ := same1 svc (UpToStatus.refl svc)
    rw [r1, hst] at hX
    exact ⟨X, hX⟩
  have hreg : ∀ rr tm, ({ (s.intfs.foldl (unsolOnIntf now j) { state := s, svc := svc }).state with
        reruns := rr, timers := tm } : State).registry i.index =
      { (announcePair svc i (s.registry i.index) now j) with newTimers := X } :=
    fun _ _ => (registry_congr (s := (s.intfs.foldl (unsolOnIntf now j) { state := s, svc := svc }).state) rfl i.index).trans
      (by rw [hi.split, List.foldl_append, List.foldl_cons]
          exact ((foldl_unsolOnIntf_spec now j l2 _).2.2.2.2.2.2 i.index fun i' h => hi.other i' (List.mem_append.mpr (Or.inr h))).trans hX)
  obtain ⟨b, hm, hbn, hw, hkept⟩ := announce_pair_watch svc i (s.registry i.index) now j v4 a n hprobe hne ha hname hinactive hfresh hpn hnr
  refine ⟨b, hm, hbn, by rw [hreg]; exact hw, by rw [hreg]; exact announce_pair_ext svc i _ now j n, ?_,
    (fsame svc (UpToStatus.refl svc)).same, fi, fs, fv, ?_, fun o ho => (fout o ho).resolve_left (by simp)⟩
  · intro _ i' hi' hidx v4' hne' a' ha' hn'
    cases hi.unique hi' hidx
    rw [hreg]
    exact hkept v4' hne' a' ha' hn'
  · intro t pk k v hmem
    simp only [List.mem_append, List.mem_map] at hmem
    rcases hmem with hmem | ⟨_, _, hmem⟩
    · rw [fr] at hmem
      exact hok t pk k v hmem
    · cases hmem

theorem registerService_stopped (s : State) (svc : Service) (now j : Nat) :
    (registerService s svc now j).1.stopped = s.stopped := by
  unfold registerService
  split
  · unfold registerChecked sendUnsolicited
    simp only []
    exact (foldl_unsolOnIntf_spec now j _ _).2.1
  · rfl

theorem iter_register (s : State) (svc : Service) (now j : Nat) (h : s.stopped = false) :
    iter s { now := now, jitter := j, cmds := [.register svc] } =
      ((loopTail (registerService { s with timers := s.timers.filter (· > now) } svc now j).1 now j).1,
       (registerService { s with timers := s.timers.filter (· > now) } svc now j).2 ++
       (loopTail (registerService { s with timers := s.timers.filter (· > now) } svc now j).1 now j).2) := by
  unfold iter loopTail
  simp [h, execCommand, registerService_stopped, List.append_assoc]

theorem registerService_eq (s : State) (svc : Service) (now j : Nat)
    (hlen : Names.checkServiceNameLength svc.ty s.nameLenMax = .ok ()) (hauto : svc.addrAuto = false) :
    registerService s svc now j = registerChecked s svc now j := by
  unfold registerService
  simp [hlen, autoAddrs, hauto]

/-- `register(svc)` in an iteration of its own (C07 `registration_starts_probe`): for a unique record `a`
    that the daemon does not hold yet, the probe of its name exists afterwards with start `now + j`,
    holding `a` or a matching record; a probe query leaves in that iteration iff `j = 0`. -/
theorem registration_creates_probe (s : State) (i : MyIntf) (l1 l2 : List MyIntf) (svc : Service) (now j : Nat)
    (v4 : Bool) (a : RR) (n : BList)
    (hrun : s.stopped = false) (hi : IntfsOk s i l1 l2) (hok : RerunsOk s)
    (hpn : KeysNodup (s.registry i.index).probing) (hnr : NoRen (s.registry i.index))
    (hlen : Names.checkServiceNameLength svc.ty s.nameLenMax = .ok ()) (hauto : svc.addrAuto = false)
    (hprobe : svc.probe = true) (hne : addrsOn svc i v4 ≠ [])
    (ha : a ∈ uniqueRecords svc i (s.registry i.index) v4) (hname : a.getName = n)
    (hinactive : (s.registry i.index).isActive a = false) (hfresh : alookup n (s.registry i.index).probing = none)
    (hset : Settled s i.index n) :
    ∃ b, a.matchesRR b = true ∧ b.getName = n ∧
      Good (iter s { now := now, jitter := j, cmds := [.register svc] }).1 i l1 l2 n (now + j)
        (if j = 0 then now + 250 else now + j) ⟨[b], [svc.fullname], alookup n (s.registry i.index).active⟩ ∧
      (j ≠ 0 → asked i.index n (iter s { now := now, jitter := j, cmds := [.register svc] }).2 = false) ∧
      (j = 0 → ∀ v4', i.hasFamily v4' = true →
        ∃ pkt, Out.send i.index v4' none pkt ∈ (iter s { now := now, jitter := j, cmds := [.register svc] }).2 ∧
          pkt.flags = 0 ∧ (n, TYPE_ANY) ∈ pkt.questions ∧ b ∈ pkt.authorities) := by
  rw [iter_register s svc now j hrun,
    registerService_eq { s with timers := s.timers.filter (· > now) } svc now j hlen hauto]
  obtain ⟨b, hm, hbn, hw, hext, hsvcset, hsame, hintfs, hstop, hsvcs, hrer, houts⟩ := sendUnsolicited_creates
    { s with timers := s.timers.filter (· > now) } svc now j i l1 l2 (hi.congr rfl) v4 a n hprobe hne ha hname hinactive hfresh
    hpn hnr hok
  have hgood : Good (registerChecked { s with timers := s.timers.filter (· > now) } svc now j).1 i l1 l2 n (now + j) (now + j)
      ⟨[b], [svc.fullname], alookup n (s.registry i.index).active⟩ := by
    unfold registerChecked
    refine ⟨hstop.trans hrun, hi.congr hintfs, ⟨hw.1, hw.2.1, hw.2.2.1, hw.2.2.2, ?_⟩, hrer⟩
    -- no record of a registered service is left to come to the probe: the new service by its
    -- registration, the others because they were settled before
    intro k svc' hk
    show SvcSettled _ (sendUnsolicited { s with timers := s.timers.filter (· > now) } svc now j).state.intfs i.index n svc'
    rw [hintfs]
    by_cases e : k = lower svc.fullname
    · subst e
      simp only [alookup_aset_self] at hk
      cases hk
      exact hsvcset.same hsame
    · simp only [alookup_aset_ne _ _ _ _ e] at hk
      rw [hsvcs] at hk
      exact (hset k svc' hk).ext hext
  have houts3 : ∀ o ∈ (registerChecked { s with timers := s.timers.filter (· > now) } svc now j).2, asksFor i.index n o = false := by
    unfold registerChecked
    intro o ho
    simp only [List.mem_append] at ho
    rcases ho with ho | ho
    · exact houts o ho i.index n
    · split at ho
      · simp at ho
      · exact notify_not_asks _ _ i.index n o ho
  obtain ⟨hg, hno, hsend⟩ := loopTail_step _ i l1 l2 n (now + j) (now + j)
    ⟨[b], [svc.fullname], alookup n (s.registry i.index).active⟩ now j hgood (Or.inr (Or.inl (by omega)))
  have e1 : now ≥ now + j ↔ j = 0 := by omega
  have e2 : now + j + (now - (now + j)) = now + j := by omega
  simp only [e1, e2, ite_self] at hg
  dsimp only
  refine ⟨b, hm, hbn, hg, ?_, ?_⟩
  · intro hj
    have := hno (by omega)
    simp only [asked, List.any_append, Bool.or_eq_false_iff, List.any_eq_false] at this ⊢
    exact ⟨fun o ho => by simp [houts3 o ho], this⟩
  · intro hj v4' hfam
    subst hj
    obtain ⟨pkt, hmem, hfl, hq, hauth⟩ := hsend (by omega) v4' hfam
    exact ⟨pkt, List.mem_append.mpr (Or.inr hmem), hfl, hq, hauth b (by simp)⟩

theorem RR.matchesRR_trans {a b c : RR} (h1 : a.matchesRR b = true) (h2 : b.matchesRR c = true) : a.matchesRR c = true := by
  simp only [RR.matchesRR, Bool.and_eq_true, beq_iff_eq] at *
  obtain ⟨⟨⟨x1, x2⟩, x3⟩, x4⟩ := h1
  obtain ⟨⟨⟨y1, y2⟩, y3⟩, y4⟩ := h2
  exact ⟨⟨⟨x1.trans y1, x2.trans y2⟩, x3.trans y3⟩, x4.trans y4⟩

theorem isActive_of_matches (r : Registry) (a b : RR) (hm : a.matchesRR b = true) (hn : a.getName = b.getName)
    (h : r.isActive b = true) : r.isActive a = true := by
  unfold Registry.isActive at *
  rw [hn]
  simp only [List.any_eq_true] at h ⊢
  obtain ⟨c, hc, hbc⟩ := h
  exact ⟨c, hc, RR.matchesRR_trans hm hbc⟩

/-! ### the two announcements, per function -/

/-- the announcement: PTR (and subtype PTR) to `target`, then the given unique records, as answers -/
def announcePkt (svc : Service) (target : BList) (recs : List RR) : Packet :=
  { flags := FLAGS_RESPONSE, answers := ptrRecords svc target TTL_OTHER ++ recs }

theorem prepareAnnouncePkt_of_active (svc : Service) (i : MyIntf) (r : Registry) (v4 : Bool)
    (hne : addrsOn svc i v4 ≠ []) (hact : ∀ a ∈ uniqueRecords svc i r v4, r.isActive a = true) :
    prepareAnnouncePkt svc i r v4 =
      some (announcePkt svc (r.resolveName svc.fullname) (uniqueRecords svc i r v4)) := by
  unfold prepareAnnouncePkt
  have : (uniqueRecords svc i r v4).all r.isActive = true := List.all_eq_true.mpr hact
  simp [hne, this]
  rfl

theorem mem_sendsOf (i : MyIntf) (p4 p6 : Option Packet) (v4 : Bool) (p : Packet)
    (h : (if v4 then p4 else p6) = some p) : Out.send i.index v4 none p ∈ sendsOf i p4 p6 := by
  unfold sendsOf
  cases v4
  · simp only [Bool.false_eq_true, ↓reduceIte] at h
    simp [h]
  · simp only [↓reduceIte] at h
    simp [h]

/-- with all unique records of family `v4` active, the two calls of `announce_service_on_intf` build the
    announcement of that family, whichever registry version the second call looks at -/
theorem announce_pair_pkt (svc : Service) (i : MyIntf) (r0 : Registry) (now j : Nat) (v4 : Bool)
    (hne : addrsOn svc i v4 ≠ []) (hact : ∀ a ∈ uniqueRecords svc i r0 v4, r0.isActive a = true) :
    ((prepareAnnouncePkt svc i r0 true).isSome ||
      (prepareAnnouncePkt svc i (prepareAnnounceReg svc i r0 true now j) false).isSome) = true ∧
    Out.send i.index v4 none (announcePkt svc (r0.resolveName svc.fullname) (uniqueRecords svc i r0 v4)) ∈
      sendsOf i (prepareAnnouncePkt svc i r0 true) (prepareAnnouncePkt svc i (prepareAnnounceReg svc i r0 true now j) false) := by
  have hp := prepareAnnouncePkt_of_active svc i r0 v4 hne hact
  cases v4
  · rw [← prepareAnnouncePkt_congr (prepareAnnounceReg_active svc i r0 true now j).1
      (prepareAnnounceReg_active svc i r0 true now j).2] at hp
    exact ⟨by simp [hp], mem_sendsOf i _ _ false _ hp⟩
  · exact ⟨by simp [hp], mem_sendsOf i _ _ true _ hp⟩

/-- the first announcement (C07 `first_announcement`): a woken service that is not yet `Announced` on `i` and
    whose unique records of family `v4` are all active there is announced, marked, and its repeat queued -/
theorem wakeService_announces (now j : Nat) (i : MyIntf) (acc : State × List Out) (name : BList) (svc : Service) (v4 : Bool)
    (hsvc : alookup (lower name) acc.1.services = some svc) (hnot : svc.announcedOn i.index = false)
    (hne : addrsOn svc i v4 ≠ [])
    (hact : ∀ a ∈ uniqueRecords svc i (acc.1.registry i.index) v4, (acc.1.registry i.index).isActive a = true) :
    Out.send i.index v4 none (announcePkt svc ((acc.1.registry i.index).resolveName svc.fullname)
        (uniqueRecords svc i (acc.1.registry i.index) v4)) ∈ (wakeService now j i acc name).2 ∧
    (∃ svc', alookup (lower name) (wakeService now j i acc name).1.services = some svc' ∧ svc'.announcedOn i.index = true) ∧
    ReRun.registerResend (now + 1000) svc.fullname i.index ∈ (wakeService now j i acc name).1.reruns ∧
    (now + 1000) ∈ (wakeService now j i acc name).1.timers ∧
    (∀ ch ∈ acc.1.monitors, ∃ e, Out.event ch e ∈ (wakeService now j i acc name).2) := by
  obtain ⟨hsome, hmem⟩ := announce_pair_pkt svc i (acc.1.registry i.index) now j v4 hne hact
  unfold wakeService
  simp only [hsvc, hnot, Bool.false_eq_true, ↓reduceIte, hsome]
  refine ⟨?_, ⟨_, alookup_aset_self _ _ _, by rw [announcedOn_setStatus]; simp⟩, ?_, ?_, ?_⟩
  · simp only [List.mem_append]
    exact Or.inl (Or.inr hmem)
  · simp [State.setRegistry]
  · simp [State.setRegistry]
  · intro ch hch
    simp only [List.mem_append, notify, List.mem_map]
    exact ⟨_, Or.inr ⟨ch, hch, rfl⟩⟩

/-- the second announcement (C07 `second_announcement`): the re-run of an `Announced` service that requires
    probing sends the same record set again -/
theorem registerResend_announces (s : State) (now j : Nat) (fullname : BList) (i : MyIntf) (svc : Service) (r0 : Registry)
    (hsvc : alookup (lower fullname) s.services = some svc) (hreg : alookup i.index s.registries = some r0)
    (hfind : s.intfs.find? (·.index == i.index) = some i) (huniq : ∀ i' ∈ s.intfs, i'.index = i.index → i' = i)
    (hprobe : svc.probe = true) (hann : svc.announcedOn i.index = true) (hsound : SvcSound s svc) :
    ∃ v4, addrsOn svc i v4 ≠ [] ∧
      Out.send i.index v4 none (announcePkt svc (r0.resolveName svc.fullname) (uniqueRecords svc i r0 v4)) ∈
        (execRegisterResend s now j fullname i.index).2 := by
  obtain ⟨i', hi', hidx, v4, hne, hact⟩ := hsound hprobe i.index hann
  rw [huniq i' hi' hidx] at hne hact
  rw [registry_of_lookup hreg] at hact
  obtain ⟨hsome, hmem⟩ := announce_pair_pkt svc i r0 now j v4 hne hact
  refine ⟨v4, hne, ?_⟩
  unfold execRegisterResend
  simp only [hsvc, hreg, hfind, hsome, ↓reduceIte, List.mem_append]
  exact Or.inl hmem

end Mdns.Responder
