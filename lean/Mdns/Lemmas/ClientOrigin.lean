import Mdns.Lemmas.ClientEvolve
/-
  C13 on the client model: where every output of a phase comes from (`Origin`): each event is
  sent to the channel of a browse / hostname search / queued re-run of the state, or of a
  command; each query has one of a few shapes, each with its cause.
-/
namespace Mdns.Client
open Mdns Mdns.Rec Mdns.Cache

/-- the channel a queued re-run reports to -/
def rchan : RCmd → Option Nat
  | .browse _ _ ch => some ch
  | .resolveHost _ _ ch => some ch
  | _ => none

/-- the channel a command reports to -/
def cchan : Command → Option Nat
  | .browse _ ch _ => some ch
  | .resolveHost _ ch _ => some ch
  | .metrics ch => some ch
  | _ => none

/-- what a re-run is: retransmission of a browse, of a hostname search, a follow-up, a verify resend -/
inductive RClass where
  | browse (ty : BList) (ch : Nat)
  | host (h : BList) (ch : Nat)
  | followup
  | verify
  deriving DecidableEq

def rclass : RCmd → RClass
  | .browse ty _ ch => .browse ty ch
  | .resolveHost h _ ch => .host h ch
  | .resolve _ _ => .followup
  | .verify _ _ => .verify

/-- a hostname search for the key is open in `s` or is opened by a command -/
def HostOpen (s : State) (cmds : List Command) (key : BList) : Prop :=
  (∃ q ∈ s.resolvers, q.1 = key) ∨ ∃ h ch t, Command.resolveHost h ch t ∈ cmds ∧ lower h = key

/-- something is browsed ACTIVELY in `s` (`browse`, not `browse_cache`) or a command starts an
    active browse: a cache-only browse causes no query (defects D23 / D23b) -/
def Browsing (s : State) (cmds : List Command) : Prop :=
  (∃ q ∈ s.queriers, q.1 ∉ s.cacheOnly) ∨ ∃ ty ch, Command.browse ty ch false ∈ cmds

/-- The cause of an output, in a state `s` with the commands `cmds` and the queued re-runs of the
    classes `rcs`:
    * an event goes to the channel of a browse or a hostname search of `s`, of a re-run of `rcs`,
      or of a command;
    * `[(ty, PTR)]` is asked for a type of `s` that is browsed and NOT cache-only (the refresh of
      its PTR records; refreshing a cache-only type was the defect D23), a browse re-run, or a `browse` command (not
      `browse_cache`);
    * `[(h, A), (h, AAAA)]` is asked for a hostname search (re-run or command, the search open),
      or is browse work: a follow-up, or the address refresh of a browsed service;
    * a single A or AAAA question is the address refresh of an open hostname search;
    * anything else is browse work (SRV / TXT refresh, `ANY` follow-up) or a `verify`. -/
inductive Origin (s : State) (cmds : List Command) (rcs : List RClass) : Out → Prop
  | evQuerier (q : BList × Nat) (e : Ev) : q ∈ s.queriers → Origin s cmds rcs (.event q.2 e)
  | evResolver (q : BList × Nat × Option Nat) (e : Ev) : q ∈ s.resolvers → Origin s cmds rcs (.event q.2.1 e)
  | evRerunB (ty : BList) (ch : Nat) (e : Ev) : RClass.browse ty ch ∈ rcs → Origin s cmds rcs (.event ch e)
  | evRerunH (h : BList) (ch : Nat) (e : Ev) : RClass.host h ch ∈ rcs → HostOpen s cmds (lower h) →
      Origin s cmds rcs (.event ch e)
  | evCommand (c : Command) (ch : Nat) (e : Ev) : c ∈ cmds → cchan c = some ch → Origin s cmds rcs (.event ch e)
  | ptrQuerier (q : BList × Nat) (known : List Record) : q ∈ s.queriers → q.1 ∉ s.cacheOnly →
      Origin s cmds rcs (.query [(q.1, 12)] known)
  | ptrRerun (ty : BList) (ch : Nat) (known : List Record) : RClass.browse ty ch ∈ rcs →
      Origin s cmds rcs (.query [(ty, 12)] known)
  | ptrCommand (ty : BList) (ch : Nat) (known : List Record) : Command.browse ty ch false ∈ cmds →
      Origin s cmds rcs (.query [(ty, 12)] known)
  | hostRerun (h : BList) (ch : Nat) (known : List Record) : RClass.host h ch ∈ rcs → HostOpen s cmds (lower h) →
      Origin s cmds rcs (.query [(h, 1), (h, 28)] known)
  | hostCommand (h : BList) (ch : Nat) (t : Option Nat) (known : List Record) : Command.resolveHost h ch t ∈ cmds →
      Origin s cmds rcs (.query [(h, 1), (h, 28)] known)
  | hostFollowup (h : BList) (known : List Record) : RClass.followup ∈ rcs → Origin s cmds rcs (.query [(h, 1), (h, 28)] known)
  | hostOfService (h : BList) (known : List Record) : Browsing s cmds → Origin s cmds rcs (.query [(h, 1), (h, 28)] known)
  | addrRefresh (key : BList) (t : Nat) (known : List Record) : HostOpen s cmds key → (t = 1 ∨ t = 28) →
      Origin s cmds rcs (.query [(key, t)] known)
  | anyFollowup (inst : BList) (known : List Record) : RClass.followup ∈ rcs → Origin s cmds rcs (.query [(inst, 255)] known)
  | srvTxtRefresh (inst : BList) (ts : List Nat) (known : List Record) : Browsing s cmds → (∀ t ∈ ts, t = 33 ∨ t = 16) →
      Origin s cmds rcs (.query (ts.map fun t => (inst, t)) known)
  | verifyQuery (inst : BList) (qs : List (BList × Nat)) (known : List Record) :
      (RClass.verify ∈ rcs ∨ ∃ t, Command.verify inst t ∈ cmds) → Origin s cmds rcs (.query ((inst, 33) :: qs) known)

def AllOrigin (s : State) (cmds : List Command) (rcs : List RClass) (outs : List Out) : Prop :=
  ∀ o ∈ outs, Origin s cmds rcs o

theorem AllOrigin.nil (s : State) (cmds : List Command) (rcs : List RClass) : AllOrigin s cmds rcs [] :=
  fun _ h => by cases h

theorem AllOrigin.single {s : State} {cmds : List Command} {rcs : List RClass} {o : Out} (h : Origin s cmds rcs o) :
    AllOrigin s cmds rcs [o] :=
  fun _ ho => List.mem_singleton.mp ho ▸ h

theorem AllOrigin.append {s : State} {cmds : List Command} {rcs : List RClass} {a b : List Out}
    (ha : AllOrigin s cmds rcs a) (hb : AllOrigin s cmds rcs b) : AllOrigin s cmds rcs (a ++ b) := by
  intro o ho
  rcases List.mem_append.mp ho with h | h
  · exact ha o h
  · exact hb o h

/-- Every search of `s'` is a search of `s` or is started by a command of `cmds`; and every
    active (not cache-only) browse of `s'` is one of `s` or is started by a `browse` that is not
    a `browse_cache`. -/
structure SearchesFrom (s : State) (cmds : List Command) (s' : State) : Prop where
  queriers : ∀ q ∈ s'.queriers, q ∈ s.queriers ∨ ∃ co, Command.browse q.1 q.2 co ∈ cmds
  active : ∀ q ∈ s'.queriers, q.1 ∉ s'.cacheOnly →
    (q ∈ s.queriers ∧ q.1 ∉ s.cacheOnly) ∨ ∃ ch, Command.browse q.1 ch false ∈ cmds
  resolvers : ∀ q ∈ s'.resolvers, q ∈ s.resolvers ∨ ∃ h t, Command.resolveHost h q.2.1 t ∈ cmds ∧ q.1 = lower h

theorem SearchesFrom.of_sub {s s' : State} (cmds : List Command) (hq : s'.queriers = s.queriers)
    (hc : s'.cacheOnly = s.cacheOnly) (hv : ∀ q ∈ s'.resolvers, q ∈ s.resolvers) : SearchesFrom s cmds s' :=
  ⟨fun _ h => Or.inl (hq ▸ h), fun _ h ha => Or.inl ⟨hq ▸ h, hc ▸ ha⟩, fun q h => Or.inl (hv q h)⟩

theorem SameSearches.from {s s' : State} (h : SameSearches s s') (cmds : List Command) : SearchesFrom s cmds s' :=
  .of_sub cmds h.queriers h.cacheOnly fun _ hq => h.resolvers ▸ hq

theorem SearchesFrom.trans {a b c : State} {cmds : List Command} (h1 : SearchesFrom a cmds b) (h2 : SearchesFrom b cmds c) :
    SearchesFrom a cmds c := by
  refine ⟨fun q hq => ?_, fun q hq ha => ?_, fun q hq => ?_⟩
  · exact (h2.queriers q hq).elim (h1.queriers q) Or.inr
  · exact (h2.active q hq ha).elim (fun h => h1.active q h.1 h.2) Or.inr
  · exact (h2.resolvers q hq).elim (h1.resolvers q) Or.inr

theorem Origin.pull {s s' : State} {cmds cmds' : List Command} {rcs rcs' : List RClass} {o : Out}
    (h : Origin s' cmds rcs o) (hs : SearchesFrom s cmds' s') (hc : ∀ c ∈ cmds, c ∈ cmds') (hr : ∀ r ∈ rcs, r ∈ rcs') :
    Origin s cmds' rcs' o := by
  have hopen : ∀ key, HostOpen s' cmds key → HostOpen s cmds' key := by
    intro key hk
    rcases hk with ⟨q, hq1, hq2⟩ | ⟨h0, ch, t, h1, h2⟩
    · rcases hs.resolvers q hq1 with h1 | ⟨h0, t, h1, h2⟩
      · exact Or.inl ⟨q, h1, hq2⟩
      · exact Or.inr ⟨h0, q.2.1, t, h1, by rw [← h2, hq2]⟩
    · exact Or.inr ⟨h0, ch, t, hc _ h1, h2⟩
  have hbr : Browsing s' cmds → Browsing s cmds' := by
    intro hb
    rcases hb with ⟨q, hq1, hq2⟩ | ⟨ty, ch, hb⟩
    · rcases hs.active q hq1 hq2 with ⟨h1, h2⟩ | ⟨ch, h1⟩
      · exact Or.inl ⟨q, h1, h2⟩
      · exact Or.inr ⟨_, ch, h1⟩
    · exact Or.inr ⟨ty, ch, hc _ hb⟩
  cases h with
  | evQuerier q e h1 =>
    rcases hs.queriers q h1 with h2 | ⟨co, h2⟩
    · exact .evQuerier q e h2
    · exact .evCommand _ q.2 e h2 rfl
  | evResolver q e h1 =>
    rcases hs.resolvers q h1 with h2 | ⟨h0, t, h2, _⟩
    · exact .evResolver q e h2
    · exact .evCommand _ q.2.1 e h2 rfl
  | evRerunB ty ch e h1 => exact .evRerunB ty ch e (hr _ h1)
  | evRerunH h0 ch e h1 h2 => exact .evRerunH h0 ch e (hr _ h1) (hopen _ h2)
  | evCommand c ch e h1 h2 => exact .evCommand c ch e (hc c h1) h2
  | ptrQuerier q known h1 h1a =>
    rcases hs.active q h1 h1a with ⟨h2, h3⟩ | ⟨ch, h2⟩
    · exact .ptrQuerier q known h2 h3
    · exact .ptrCommand q.1 ch known h2
  | ptrRerun ty ch known h1 => exact .ptrRerun ty ch known (hr _ h1)
  | ptrCommand ty ch known h1 => exact .ptrCommand ty ch known (hc _ h1)
  | hostRerun h0 ch known h1 h2 => exact .hostRerun h0 ch known (hr _ h1) (hopen _ h2)
  | hostCommand h0 ch t known h1 => exact .hostCommand h0 ch t known (hc _ h1)
  | hostFollowup h0 known h1 => exact .hostFollowup h0 known (hr _ h1)
  | hostOfService h0 known h1 => exact .hostOfService h0 known (hbr h1)
  | addrRefresh key t known h1 h2 => exact .addrRefresh key t known (hopen _ h1) h2
  | anyFollowup inst known h1 => exact .anyFollowup inst known (hr _ h1)
  | srvTxtRefresh inst ts known h1 h2 => exact .srvTxtRefresh inst ts known (hbr h1) h2
  | verifyQuery inst qs known h1 =>
    refine .verifyQuery inst qs known ?_
    rcases h1 with h1 | ⟨t, h1⟩
    · exact Or.inl (hr _ h1)
    · exact Or.inr ⟨t, hc _ h1⟩

theorem AllOrigin.pull {s s' : State} {cmds cmds' : List Command} {rcs rcs' : List RClass} {outs : List Out}
    (h : AllOrigin s' cmds rcs outs) (hs : SearchesFrom s cmds' s') (hc : ∀ c ∈ cmds, c ∈ cmds')
    (hr : ∀ r ∈ rcs, r ∈ rcs') : AllOrigin s cmds' rcs' outs :=
  fun o ho => (h o ho).pull hs hc hr

theorem AllOrigin.same {s s' : State} {cmds : List Command} {rcs : List RClass} {outs : List Out}
    (h : AllOrigin s' cmds rcs outs) (hs : SameSearches s s') : AllOrigin s cmds rcs outs :=
  h.pull (hs.from cmds) (fun _ h => h) (fun _ h => h)

theorem mem_visits_querier (s : State) (now : Nat) (u : List BList) (v : BList × Nat × BList) (h : v ∈ visits s now u) :
    (v.1, v.2.1) ∈ s.queriers := by
  simp only [visits, List.mem_flatMap] at h
  obtain ⟨p, _, hv⟩ := h
  split at hv
  · cases hv
  · rename_i ch hch
    simp only [List.mem_map] at hv
    obtain ⟨a, _, rfl⟩ := hv
    exact lookup_mem _ _ _ hch

theorem origin_notifyRemoval (s : State) (cmds : List Command) (rcs : List RClass) (e : List (BList × BList)) :
    AllOrigin s cmds rcs (notifyRemoval s.queriers e) := by
  intro o ho
  simp only [notifyRemoval, List.mem_flatMap, List.mem_map] at ho
  obtain ⟨q, hq, i, _, rfl⟩ := ho
  exact .evQuerier q _ hq

theorem origin_resolveUpdated (s : State) (cmds : List Command) (rcs : List RClass) (now : Nat) (u : List BList) :
    AllOrigin s cmds rcs (resolveUpdated s now u).2 := by
  unfold resolveUpdated
  split
  · exact AllOrigin.nil _ _ _
  · simp only []
    apply AllOrigin.append
    · intro o ho
      simp only [List.mem_map, List.mem_filter] at ho
      obtain ⟨v, ⟨hv, _⟩, rfl⟩ := ho
      exact .evQuerier (v.1, v.2.1) _ (mem_visits_querier s now u v hv)
    · exact origin_notifyRemoval s cmds rcs _

theorem ingestOne_outs (q : List (BList × Nat)) (ifName : BList) (ifIdx now : Nat) (forUs : Bool) (acc : Ingest)
    (r : Wire.Rec) :
    (ingestOne q ifName ifIdx now forUs acc r).outs = acc.outs ∨
    ∃ ch name alias, q.lookup name = some ch ∧
      (ingestOne q ifName ifIdx now forUs acc r).outs = acc.outs ++ [.event ch (.found name alias)] := by
  unfold ingestOne
  simp only []
  split
  · exact Or.inl rfl
  · exact Or.inl rfl
  · split
    · split
      · split
        · rename_i ch hch
          exact Or.inr ⟨ch, _, _, hch, rfl⟩
        · exact Or.inl rfl
      · exact Or.inl rfl
    · exact Or.inl rfl

theorem origin_ingestOne (s : State) (cmds : List Command) (rcs : List RClass) (ifName : BList) (ifIdx now : Nat)
    (forUs : Bool) (acc : Ingest) (r : Wire.Rec) (h : AllOrigin s cmds rcs acc.outs) :
    AllOrigin s cmds rcs (ingestOne s.queriers ifName ifIdx now forUs acc r).outs := by
  rcases ingestOne_outs s.queriers ifName ifIdx now forUs acc r with e | ⟨ch, name, alias, hch, e⟩ <;> rw [e]
  · exact h
  · exact h.append (.single (.evQuerier (name, ch) _ (lookup_mem _ _ _ hch)))

theorem origin_ingestAll (s : State) (cmds : List Command) (rcs : List RClass) (ifName : BList) (ifIdx now : Nat)
    (forUs : Bool) : ∀ (rs : List Wire.Rec) (acc : Ingest), AllOrigin s cmds rcs acc.outs →
      AllOrigin s cmds rcs (ingestAll s.queriers ifName ifIdx now forUs acc rs).outs
  | [], _, h => h
  | r :: rest, acc, h => by
    simp only [ingestAll]
    exact origin_ingestAll s cmds rcs ifName ifIdx now forUs rest _ (origin_ingestOne s cmds rcs ifName ifIdx now forUs acc r h)

theorem Origin.ofResolverChan {s : State} {cmds : List Command} {rcs : List RClass} {name : BList} {chan : Nat}
    (h : resolverChan s name = some chan) (e : Ev) : Origin s cmds rcs (.event chan e) := by
  obtain ⟨q, hq, _, hqc⟩ := resolverChan_mem s name chan h
  exact hqc ▸ .evResolver q e hq

theorem origin_handleResponse (s : State) (cmds : List Command) (rcs : List RClass) (now : Nat) (intf : Intf) (m : Wire.Msg) :
    AllOrigin s cmds rcs (handleResponse s now intf m).2 := by
  unfold handleResponse
  simp only []
  refine (AllOrigin.append (origin_ingestAll s cmds rcs _ _ now _ _ _ (AllOrigin.nil _ _ _)) ?_).append ?_
  · intro o ho
    obtain ⟨name, chan, hchan, p, _, rfl⟩ := mem_hostFoundOuts ho
    exact .ofResolverChan (s := s) hchan _
  · exact (origin_resolveUpdated (addTimers { s with cache := _ } _) cmds rcs now _).same ⟨rfl, rfl, rfl, rfl, rfl, rfl⟩

theorem origin_handleRead (s : State) (cmds : List Command) (rcs : List RClass) (now : Nat) (p : Packet) :
    AllOrigin s cmds rcs (handleRead s now p).2 := by
  rcases handleRead_cases s now p with h | ⟨intf, h⟩ <;> rw [h]
  · exact AllOrigin.nil _ _ _
  · exact origin_handleResponse s cmds rcs now intf p.msg

theorem origin_ingress (cmds : List Command) (rcs : List RClass) (now : Nat) : ∀ (pkts : List Packet) (s : State),
    AllOrigin s cmds rcs (ingress s now pkts).2
  | [], s => AllOrigin.nil _ _ _
  | p :: rest, s => by
    simp only [ingress]
    exact (origin_handleRead s cmds rcs now p).append ((origin_ingress cmds rcs now rest _).same (same_handleRead s now p))

theorem origin_runTimeouts (s : State) (cmds : List Command) (rcs : List RClass) (now : Nat) :
    AllOrigin s cmds rcs (runTimeouts s now).2 := by
  intro o ho
  simp only [runTimeouts, List.mem_flatMap, List.mem_filter] at ho
  obtain ⟨q, ⟨hq, _⟩, hm⟩ := ho
  simp only [List.mem_cons, List.not_mem_nil, or_false] at hm
  rcases hm with rfl | rfl
  · exact .evResolver q _ hq
  · exact .evResolver q _ hq

theorem mem_queryCacheForService_outs {s : State} {now : Nat} {ty : BList} {ch : Nat} {o : Out}
    (h : o ∈ (queryCacheForService s now ty ch).2) : ∃ e, o = .event ch e := by
  simp only [queryCacheForService, List.mem_flatMap, List.mem_append, List.mem_singleton] at h
  obtain ⟨i, _, rfl | h⟩ := h
  · exact ⟨_, rfl⟩
  · split at h
    · exact ⟨_, List.mem_singleton.mp h⟩
    · cases h

theorem origin_execVerify (s : State) (cmds : List Command) (rcs : List RClass) (now : Nat) (rep : Bool) (inst : BList)
    (t : Nat) (h : RClass.verify ∈ rcs ∨ ∃ t, Command.verify inst t ∈ cmds) :
    AllOrigin s cmds rcs (execVerify s now rep inst t).2 := by
  unfold execVerify
  generalize (if rep = true then none else some (now + t)) = expireAt
  simp only []
  split
  · exact AllOrigin.nil _ _ _
  · rename_i hne
    intro o ho
    simp only [List.mem_singleton] at ho
    subst ho
    cases hg : s.cache.srv.get inst with
    | none => simp [serviceVerifyQueries, hg] at hne
    | some srvs =>
      -- the first question of a `verify` is the SRV question for the instance
      cases expireAt <;> simp only [sendQuery, serviceVerifyQueries, hg] <;> exact .verifyQuery inst _ _ h

theorem origin_execCommand (s : State) (cmds : List Command) (rcs : List RClass) (now : Nat) (c : Command) (hc : c ∈ cmds) :
    AllOrigin s cmds rcs (execCommand s now c).2 := by
  cases c with
  | browse ty ch co =>
    have hq : ∀ s', AllOrigin s cmds rcs (queryCacheForService s' now ty ch).2 := fun s' o ho => by
      obtain ⟨e, rfl⟩ := mem_queryCacheForService_outs ho
      exact .evCommand _ ch e hc rfl
    cases co <;> simp only [execCommand, execBrowse, Bool.false_eq_true, if_false, if_true]
    · exact ((AllOrigin.single (.evCommand _ ch _ hc rfl)).append (hq _)).append (.single (.ptrCommand ty ch _ hc))
    · exact ((AllOrigin.single (.evCommand _ ch _ hc rfl)).append (hq _)).append (.single (.evCommand _ ch _ hc rfl))
  | stopBrowse ty =>
    simp only [execCommand, execStopBrowse]
    split
    · exact AllOrigin.nil _ _ _
    · rename_i k ch hf
      exact .single (.evQuerier (k, ch) _ (List.mem_of_find?_eq_some hf))
  | resolveHost h ch t =>
    simp only [execCommand, execResolveHost, Bool.false_and, Bool.false_eq_true, if_false]
    intro o ho
    simp only [List.mem_append, List.mem_singleton, List.mem_map] at ho
    rcases ho with (rfl | ⟨p, _, rfl⟩) | rfl
    · exact .evCommand _ ch _ hc rfl
    · exact .evCommand _ ch _ hc rfl
    · exact .hostCommand h ch t _ hc
  | stopResolve h =>
    simp only [execCommand, execStopResolve]
    split
    · exact AllOrigin.nil _ _ _
    · rename_i k ch dl hf
      exact .single (.evResolver (k, ch, dl) _ (List.mem_of_find?_eq_some hf))
  | ipInterval ms => exact AllOrigin.nil _ _ _
  | verify inst t => exact origin_execVerify s cmds rcs now false inst t (Or.inr ⟨t, hc⟩)
  | metrics ch => exact .single (.evCommand _ ch _ hc rfl)
  | acceptUnsolicited on => exact AllOrigin.nil _ _ _

theorem execCommand_browse_queriers (s : State) (now : Nat) (ty : BList) (ch : Nat) (co : Bool) :
    (execCommand s now (.browse ty ch co)).1.queriers = (ty, ch) :: s.queriers.filter (fun q => q.1 != ty) := by
  simp only [execCommand, execBrowse, Bool.false_eq_true, if_false]
  split <;> simp only [addRerun, (same_queryCacheForService _ now ty ch).queriers]

theorem execCommand_browse_cacheOnly (s : State) (now : Nat) (ty : BList) (ch : Nat) (co : Bool) :
    (execCommand s now (.browse ty ch co)).1.cacheOnly =
      if co then insertSet s.cacheOnly ty else s.cacheOnly.filter (· != ty) := by
  cases co <;>
    simp only [execCommand, execBrowse, Bool.false_eq_true, if_false, if_true, addRerun,
      (same_queryCacheForService _ now ty ch).cacheOnly]

/-- a command is a `browse` / `browse_cache`, or a `stop_browse`, or it leaves the browses and the
    cache-only set as they are -/
theorem execCommand_browses (s : State) (now : Nat) (c : Command) :
    (∃ ty ch co, c = .browse ty ch co) ∨ (∃ ty, c = .stopBrowse ty) ∨
    ((execCommand s now c).1.queriers = s.queriers ∧ (execCommand s now c).1.cacheOnly = s.cacheOnly) := by
  cases c with
  | browse ty ch co => exact Or.inl ⟨ty, ch, co, rfl⟩
  | stopBrowse ty => exact Or.inr (Or.inl ⟨ty, rfl⟩)
  | resolveHost h0 ch t =>
    refine Or.inr (Or.inr ?_)
    simp only [execCommand, execResolveHost, Bool.false_and, Bool.false_eq_true, if_false]
    cases t <;> simp only [Option.map_none, Option.map_some] <;> split <;> exact ⟨rfl, rfl⟩
  | stopResolve h0 =>
    refine Or.inr (Or.inr ?_)
    simp only [execCommand, execStopResolve]
    split <;> exact ⟨rfl, rfl⟩
  | verify inst t =>
    refine Or.inr (Or.inr ?_)
    simp only [execCommand, execVerify, Bool.false_eq_true, if_false]
    split <;> exact ⟨rfl, rfl⟩
  | ipInterval ms => exact Or.inr (Or.inr ⟨rfl, rfl⟩)
  | metrics ch => exact Or.inr (Or.inr ⟨rfl, rfl⟩)
  | acceptUnsolicited on => exact Or.inr (Or.inr ⟨rfl, rfl⟩)

theorem active_execCommand (s : State) (now : Nat) (c : Command) (q : BList × Nat)
    (hq : q ∈ (execCommand s now c).1.queriers) (ha : q.1 ∉ (execCommand s now c).1.cacheOnly) :
    (q ∈ s.queriers ∧ q.1 ∉ s.cacheOnly) ∨ ∃ ch, c = Command.browse q.1 ch false := by
  rcases execCommand_browses s now c with ⟨ty, ch, co, rfl⟩ | ⟨ty, rfl⟩ | ⟨e1, e2⟩
  · rw [execCommand_browse_queriers] at hq
    rw [execCommand_browse_cacheOnly] at ha
    rcases List.mem_cons.mp hq with rfl | hq
    · cases co
      · exact Or.inr ⟨ch, rfl⟩
      · exact absurd ((mem_insertSet _ _ _).mpr (Or.inr rfl)) ha
    · obtain ⟨hq1, hq2⟩ := List.mem_filter.mp hq
      refine Or.inl ⟨hq1, fun hin => ha ?_⟩
      cases co
      · exact List.mem_filter.mpr ⟨hin, hq2⟩
      · exact (mem_insertSet _ _ _).mpr (Or.inl hin)
  · simp only [execCommand, execStopBrowse] at hq ha
    split at hq
    · rename_i hf
      simp only [hf] at ha
      exact Or.inl ⟨hq, ha⟩
    · rename_i k ch hf
      simp only [hf] at ha
      obtain ⟨hq1, hq2⟩ := List.mem_filter.mp hq
      exact Or.inl ⟨hq1, fun hin => ha (List.mem_filter.mpr ⟨hin, hq2⟩)⟩
  · exact Or.inl ⟨e1 ▸ hq, e2 ▸ ha⟩

theorem searchesFrom_execCommand {cmds : List Command} (s : State) (now : Nat) (c : Command) (hc : c ∈ cmds) :
    SearchesFrom s cmds (execCommand s now c).1 := by
  have hst := step_execCommand (now := now) (cmds := cmds) (KeyOK := fun _ => True) (OK := fun _ => True) s c hc
    (fun _ _ => trivial) trivial trivial
  refine ⟨hst.queriers, fun q hq ha => ?_, fun q hq => ?_⟩
  · exact (active_execCommand s now c q hq ha).imp id fun ⟨ch, e⟩ => ⟨ch, e ▸ hc⟩
  · exact (hst.resolvers q hq).imp id fun ⟨h0, t, h1, h2, _⟩ => ⟨h0, t, h1, h2⟩

theorem origin_runCommands_from (cmds : List Command) (rcs : List RClass) (now : Nat) (s0 : State) (l : List Command)
    (s : State) (hl : ∀ c ∈ l, c ∈ cmds) (hs : SearchesFrom s0 cmds s) :
    SearchesFrom s0 cmds (runCommands s now l).1 ∧ AllOrigin s0 cmds rcs (runCommands s now l).2 :=
  runCommands_induct_outs (ok := (· ∈ cmds)) now
    (fun s c hc hs => ⟨hs.trans (searchesFrom_execCommand s now c hc),
      (origin_execCommand s cmds rcs now c hc).pull hs (fun _ h => h) (fun _ h => h)⟩) l s hl hs

theorem origin_execRerun (s : State) (now : Nat) (c : RCmd) : AllOrigin s [] [rclass c] (execRerun s now c).2 := by
  cases c with
  | browse ty d ch =>
    intro o ho
    simp only [execRerun, execBrowse, if_true, Bool.false_eq_true, if_false, List.append_nil, List.mem_append,
      List.mem_singleton] at ho
    rcases ho with rfl | rfl
    · exact .evRerunB ty ch _ List.mem_cons_self
    · exact .ptrRerun ty ch _ List.mem_cons_self
  | resolveHost h d ch =>
    simp only [execRerun, execResolveHost]
    split
    · exact AllOrigin.nil _ _ _
    · rename_i hopen
      intro o ho
      simp only [if_true, List.append_nil, List.mem_append, List.mem_singleton] at ho
      have hopen' : HostOpen s [] (lower h) := by
        left
        simp only [Bool.true_and, Bool.not_eq_true', Bool.not_eq_false] at hopen
        obtain ⟨q, hq, hk⟩ := List.any_eq_true.mp hopen
        exact ⟨q, hq, by simpa using hk⟩
      rcases ho with rfl | rfl
      · exact .evRerunH h ch _ List.mem_cons_self hopen'
      · exact .hostRerun h ch _ List.mem_cons_self hopen' 
  | resolve inst k =>
    simp only [execRerun, execResolveInst]
    split
    · exact AllOrigin.nil _ _ _
    · rename_i qs hqs
      intro o ho
      simp only [List.mem_singleton] at ho
      subst ho
      unfold queryUnresolved at hqs
      split at hqs
      · cases hqs
      · split at hqs
        · cases hqs
          exact .anyFollowup inst _ List.mem_cons_self
        · simp only [Option.map_eq_some_iff] at hqs
          obtain ⟨h0, _, rfl⟩ := hqs
          exact .hostFollowup h0 _ List.mem_cons_self
  | verify inst t => exact origin_execVerify s [] _ now true inst t (Or.inl List.mem_cons_self)

theorem execRerun_new_class (s : State) (now : Nat) (c : RCmd) :
    ∀ x ∈ (execRerun s now c).1.reruns, x ∈ s.reruns ∨ rclass x.cmd = rclass c := by
  intro x hx
  cases c with
  | browse ty d ch =>
    simp only [execRerun, execBrowse, if_true, Bool.false_eq_true, if_false, addRerun, List.mem_append,
      List.mem_singleton] at hx
    exact hx.imp id fun e => by rw [e]; rfl
  | resolveHost h d ch =>
    simp only [execRerun, execResolveHost] at hx
    split at hx
    · exact Or.inl hx
    · simp only [if_true] at hx
      exact (mem_reruns_ite_addRerun hx).imp id fun e => by rw [e]; rfl
  | resolve inst k =>
    simp only [execRerun, execResolveInst] at hx
    split at hx
    · exact Or.inl hx
    · exact (mem_reruns_ite_addRerun hx).imp id fun e => by rw [e]; rfl
  | verify inst t =>
    simp only [execRerun, execVerify, if_true] at hx
    split at hx <;> exact Or.inl hx

/-- **the re-run phase**: every output is caused by a re-run whose class is that of a queued
    one, and so is what stays queued -/
theorem origin_rerunPhase (s : State) (now : Nat) :
    (∀ r ∈ (rerunPhase s now).1.reruns, rclass r.cmd ∈ s.reruns.map fun r => rclass r.cmd) ∧
    AllOrigin s [] (s.reruns.map fun r => rclass r.cmd) (rerunPhase s now).2 := by
  generalize hrcs : (s.reruns.map fun r => rclass r.cmd) = rcs
  have h := rerunPhase_induct (P := fun s' => SameSearches s s' ∧ ∀ r ∈ s'.reruns, rclass r.cmd ∈ rcs)
    (Q := Origin s [] rcs) now ?_ s ⟨SameSearches.rfl, fun _ hr => hrcs ▸ List.mem_map_of_mem hr⟩
  · exact ⟨h.1.2, h.2⟩
  · intro s' keep rest r hq _ ⟨hsame, hcl⟩
    have hr : rclass r.cmd ∈ rcs := hcl r (by simp [hq])
    have hs1 := hsame.trans (same_setReruns s' [])
    refine ⟨⟨(hs1.trans (same_execRerun _ now r.cmd)).trans (same_setReruns _ _), fun x hx => ?_⟩, fun o ho => ?_⟩
    · simp only [List.mem_append] at hx
      rcases hx with hx | hx | hx
      · exact hcl x (by simp [hq, hx])
      · exact hcl x (by simp [hq, hx])
      · exact (execRerun_new_class _ now r.cmd x hx).resolve_left List.not_mem_nil ▸ hr
    · exact (origin_execRerun _ now r.cmd o ho).pull (hs1.from _) (fun _ h => h)
        (fun x hx => List.mem_singleton.mp hx ▸ hr)

theorem pushDue_types (due : List (BList × List Nat)) (inst : BList) (t : Nat) (ht : t = 33 ∨ t = 16)
    (h : ∀ p ∈ due, ∀ x ∈ p.2, x = 33 ∨ x = 16) : ∀ p ∈ pushDue due inst t, ∀ x ∈ p.2, x = 33 ∨ x = 16 := by
  intro p hp x hx
  unfold pushDue at hp
  split at hp
  · simp only [List.mem_map] at hp
    obtain ⟨p0, hp0, rfl⟩ := hp
    split at hx
    · simp only [List.mem_append, List.mem_singleton] at hx
      rcases hx with hx | rfl
      · exact h p0 hp0 x hx
      · exact ht
    · exact h p0 hp0 x hx
  · simp only [List.mem_append, List.mem_singleton] at hp
    rcases hp with hp | rfl
    · exact h p hp x hx
    · simp only [List.mem_singleton] at hx
      exact hx ▸ ht

theorem refreshSrvTxtGo_due_types (now : Nat) : ∀ (l : List BList) (s : SrvTxtDue),
    (∀ p ∈ s.due, ∀ x ∈ p.2, x = 33 ∨ x = 16) → ∀ p ∈ (refreshSrvTxtGo now l s).due, ∀ x ∈ p.2, x = 33 ∨ x = 16
  | [], _, h => h
  | inst :: rest, s, h => by
    unfold refreshSrvTxtGo
    apply refreshSrvTxtGo_due_types now rest
    simp only []
    have h1 : ∀ p ∈ (if (refreshEntries now ((s.cache.srv.get inst).getD [])).2.isEmpty then s.due else pushDue s.due inst 33),
        ∀ x ∈ p.2, x = 33 ∨ x = 16 := by
      split
      · exact h
      · exact pushDue_types _ _ _ (Or.inl rfl) h
    split
    · exact h1
    · exact pushDue_types _ _ _ (Or.inr rfl) h1

theorem origin_refreshType (s : State) (cmds : List Command) (rcs : List RClass) (c : Cache) (now : Nat) (q : BList × Nat)
    (hq : q ∈ s.queriers) (hqa : q.1 ∉ s.cacheOnly) : AllOrigin s cmds rcs (refreshType c now q.1).2.1 := by
  have hb : Browsing s cmds := Or.inl ⟨q, hq, hqa⟩
  unfold refreshType
  simp only []
  refine (AllOrigin.append ?_ ?_).append ?_
  · split
    · exact AllOrigin.nil _ _ _
    · exact .single (.ptrQuerier q _ hq hqa)
  · intro o ho
    simp only [List.mem_map] at ho
    obtain ⟨p, hp, rfl⟩ := ho
    exact .srvTxtRefresh p.1 p.2 _ hb
      (refreshSrvTxtGo_due_types now _ _ (fun _ h => by cases h) p hp)
  · intro o ho
    simp only [List.mem_map] at ho
    obtain ⟨h0, _, rfl⟩ := ho
    exact .hostOfService h0 _ hb

theorem origin_refreshTypes (s : State) (cmds : List Command) (rcs : List RClass) (now : Nat) :
    ∀ (l : List BList) (c : Cache), (∀ ty ∈ l, ty ∉ s.cacheOnly ∧ ∃ q ∈ s.queriers, q.1 = ty) →
      AllOrigin s cmds rcs (refreshTypes c now l).2.1
  | [], _, _ => AllOrigin.nil _ _ _
  | ty :: rest, c, h => by
    simp only [refreshTypes]
    obtain ⟨hco, q, hq, rfl⟩ := h ty List.mem_cons_self
    exact (origin_refreshType s cmds rcs c now q hq hco).append
      (origin_refreshTypes s cmds rcs now rest _ (fun q' h' => h q' (List.mem_cons_of_mem _ h')))

theorem mem_activeTypes (s : State) (ty : BList) : ty ∈ activeTypes s ↔ ty ∉ s.cacheOnly ∧ ∃ q ∈ s.queriers, q.1 = ty := by
  simp only [activeTypes, List.mem_filter, List.mem_map, Bool.not_eq_true', List.contains_eq_mem, decide_eq_false_iff_not]
  constructor
  · rintro ⟨⟨q, hq, rfl⟩, h⟩
    exact ⟨h, q, hq, rfl⟩
  · rintro ⟨h, q, hq, rfl⟩
    exact ⟨⟨q, hq, rfl⟩, h⟩

theorem mem_refreshTypes (now : Nat) (o : Out) : ∀ (l : List BList) (c : Cache), o ∈ (refreshTypes c now l).2.1 →
    ∃ ty ∈ l, ∃ c', o ∈ (refreshType c' now ty).2.1
  | [], _, h => by simp [refreshTypes] at h
  | ty :: rest, c, h => by
    simp only [refreshTypes, List.mem_append] at h
    rcases h with h | h
    · exact ⟨ty, List.mem_cons_self, c, h⟩
    · obtain ⟨ty', h1, c', h2⟩ := mem_refreshTypes now o rest _ h
      exact ⟨ty', List.mem_cons_of_mem _ h1, c', h2⟩

theorem origin_refreshActive (s : State) (cmds : List Command) (rcs : List RClass) (now : Nat) :
    AllOrigin s cmds rcs (refreshActive s now).2 :=
  origin_refreshTypes s cmds rcs now (activeTypes s) s.cache (fun ty h => (mem_activeTypes s ty).mp h)

theorem origin_refreshResolversGo (s : State) (cmds : List Command) (rcs : List RClass) (now : Nat) :
    ∀ (l : List (BList × Nat × Option Nat)) (c : Cache), (∀ q ∈ l, q ∈ s.resolvers) →
      AllOrigin s cmds rcs (refreshResolversGo c now (l.map (·.1))).2
  | [], _, _ => AllOrigin.nil _ _ _
  | q :: rest, c, h => by
    simp only [List.map_cons, refreshResolversGo]
    refine AllOrigin.append ?_ (origin_refreshResolversGo s cmds rcs now rest _ (fun q' h' => h q' (List.mem_cons_of_mem _ h')))
    intro o ho
    simp only [List.mem_map] at ho
    obtain ⟨it, _, rfl⟩ := ho
    refine .addrRefresh q.1 _ _ (Or.inl ⟨q, h q List.mem_cons_self, rfl⟩) ?_
    split
    · exact Or.inl rfl
    · exact Or.inr rfl

theorem origin_refreshResolvers (s : State) (cmds : List Command) (rcs : List RClass) (now : Nat) :
    AllOrigin s cmds rcs (refreshResolvers s now).2 :=
  origin_refreshResolversGo s cmds rcs now s.resolvers s.cache (fun _ h => h)

theorem origin_evictServicesPhase (s : State) (cmds : List Command) (rcs : List RClass) (now : Nat) :
    AllOrigin s cmds rcs (evictServicesPhase s now).2 :=
  origin_notifyRemoval s cmds rcs _

theorem origin_evictAddrHosts (cmds : List Command) (rcs : List RClass) (now : Nat) (items : List (BList × BList × BList × Nat)) :
    ∀ (hosts : List BList) (s : State), AllOrigin s cmds rcs (evictAddrHosts s now items hosts).2
  | [], _ => AllOrigin.nil _ _ _
  | h :: rest, s => by
    simp only [evictAddrHosts]
    refine (AllOrigin.append ?_ (origin_resolveUpdated s cmds rcs now _)).append ?_
    · split
      · exact AllOrigin.nil _ _ _
      · exact .single (.ofResolverChan ‹_› _)
    · exact (origin_evictAddrHosts cmds rcs now items rest _).same (same_resolveUpdated s now _)

theorem origin_evictAddrPhase (s : State) (cmds : List Command) (rcs : List RClass) (now : Nat) :
    AllOrigin s cmds rcs (evictAddrPhase s now).2 :=
  (origin_evictAddrHosts cmds rcs now _ _ { s with cache := _ }).same ⟨rfl, rfl, rfl, rfl, rfl, rfl⟩

/-- The state after the re-run, refresh and eviction phases, from a state `x` in which the
    commands `post` are still to be executed (before the interface-check block).  From
    `x = preCommands s now pkts` with all the commands this is, by unfolding, `preIp s now pkts cmds`
    of ClientPhases, and `iter_tail` is `iter_fst` / `iter_outs` in these terms; the cut starts at any
    `x` so that an iteration can also be taken up after some of its commands (`iter_split`). -/
def tailState (x : State) (now : Nat) (post : List Command) : State :=
  (evictAddrPhase (evictServicesPhase (refreshResolvers (refreshActive (rerunPhase (runCommands x now post).1 now).1
    now).1 now).1 now).1 now).1

/-- what is emitted on the way -/
def tailOuts (x : State) (now : Nat) (post : List Command) : List Out :=
  (runCommands x now post).2 ++ (rerunPhase (runCommands x now post).1 now).2 ++
  (refreshActive (rerunPhase (runCommands x now post).1 now).1 now).2 ++
  (refreshResolvers (refreshActive (rerunPhase (runCommands x now post).1 now).1 now).1 now).2 ++
  (evictServicesPhase (refreshResolvers (refreshActive (rerunPhase (runCommands x now post).1 now).1 now).1 now).1 now).2 ++
  (evictAddrPhase (evictServicesPhase (refreshResolvers (refreshActive (rerunPhase (runCommands x now post).1 now).1
    now).1 now).1 now).1 now).2

theorem tailState_eq (x : State) (now : Nat) (post : List Command) :
    tailState x now post = (evictPhases (refreshPhases (runCommands x now post).1 now).1 now).1 := by
  simp only [tailState, evictPhases, refreshPhases]

/-- `same_iter` for this cut: after the commands nothing touches the searches -/
theorem same_tail (x : State) (now : Nat) (post : List Command) :
    SameSearches (runCommands x now post).1 (runIpCheck (tailState x now post) now) := by
  rw [tailState_eq]
  exact (same_refreshPhases _ now).trans ((same_evictPhases _ now).trans (same_runIpCheck _ now))

theorem iter_tail (s : State) (now : Nat) (pkts : List Packet) (cmds : List Command) :
    (iter s now pkts cmds).1 = runIpCheck (tailState (preCommands s now pkts) now cmds) now ∧
    (iter s now pkts cmds).2 =
      (ingress s now pkts).2 ++ (runTimeouts (popTimers (ingress s now pkts).1 now) now).2 ++
      tailOuts (preCommands s now pkts) now cmds := by
  constructor
  · simp only [iter_fst, preIp, preEvict, tailState]
  · simp only [iter_eq, afterPop, preEvict, refreshPhases, evictPhases, tailOuts, List.append_assoc]

/-- an output of the iteration is one from before the commands or one of the tail, and the state
    is that after the tail -/
theorem iter_of_tail {ι : Sort _} (f : ι → Out) {I : State → Prop} (s : State) (now : Nat) (pkts : List Packet)
    (cmds : List Command)
    (hpre : ∀ i, f i ∉ (ingress s now pkts).2 ++ (runTimeouts (popTimers (ingress s now pkts).1 now) now).2)
    (htail : (∀ i, f i ∉ tailOuts (preCommands s now pkts) now cmds) ∧
      I (runIpCheck (tailState (preCommands s now pkts) now cmds) now)) :
    (∀ i, f i ∉ (iter s now pkts cmds).2) ∧ I (iter s now pkts cmds).1 := by
  obtain ⟨h1, h2⟩ := iter_tail s now pkts cmds
  rw [h1, h2]
  exact ⟨fun i hi => (List.mem_append.mp hi).elim (hpre i) (htail.1 i), htail.2⟩

theorem tailOuts_cons (x : State) (now : Nat) (c : Command) (post : List Command) :
    tailOuts x now (c :: post) = (execCommand x now c).2 ++ tailOuts (execCommand x now c).1 now post := by
  simp only [tailOuts, runCommands, List.append_assoc]

theorem tailState_append (now : Nat) : ∀ (pre : List Command) (x : State) (post : List Command),
    tailState x now (pre ++ post) = tailState (runCommands x now pre).1 now post
  | [], _, _ => rfl
  | c :: pre, x, post => tailState_append now pre (execCommand x now c).1 post

theorem tailOuts_append (now : Nat) : ∀ (pre : List Command) (x : State) (post : List Command),
    tailOuts x now (pre ++ post) = (runCommands x now pre).2 ++ tailOuts (runCommands x now pre).1 now post
  | [], _, _ => rfl
  | c :: pre, x, post => by
    rw [List.cons_append, tailOuts_cons, tailOuts_append now pre, runCommands, List.append_assoc]

theorem iter_split (s : State) (now : Nat) (pkts : List Packet) (pre : List Command) (c : Command) (post : List Command) :
    (iter s now pkts (pre ++ c :: post)).1 =
      runIpCheck (tailState (execCommand (runCommands (preCommands s now pkts) now pre).1 now c).1 now post) now ∧
    (iter s now pkts (pre ++ c :: post)).2 =
      (ingress s now pkts).2 ++ (runTimeouts (popTimers (ingress s now pkts).1 now) now).2 ++
      (runCommands (preCommands s now pkts) now pre).2 ++
      (execCommand (runCommands (preCommands s now pkts) now pre).1 now c).2 ++
      tailOuts (execCommand (runCommands (preCommands s now pkts) now pre).1 now c).1 now post := by
  obtain ⟨h1, h2⟩ := iter_tail s now pkts (pre ++ c :: post)
  rw [h1, h2, tailState_append, tailOuts_append, tailOuts_cons]
  exact ⟨rfl, by simp only [List.append_assoc]⟩

/-- the classes of the re-runs that are queued when the re-run phase starts -/
def midClasses (x : State) (now : Nat) (post : List Command) : List RClass :=
  (runCommands x now post).1.reruns.map fun r => rclass r.cmd

/-- **cause of every output of the tail of an iteration**: each phase's outputs have their
    cause in the state the phase starts from, whose searches are those the commands leave -/
theorem origin_tail (x : State) (now : Nat) (post : List Command) :
    AllOrigin x post (midClasses x now post) (tailOuts x now post) := by
  obtain ⟨hc, ho⟩ := origin_runCommands_from post (midClasses x now post) now x post x (fun _ h => h) (SameSearches.rfl.from post)
  have h2 := same_rerunPhase (runCommands x now post).1 now
  have h3 := h2.trans (same_refreshActive _ now)
  have h4 := h3.trans (same_refreshResolvers _ now)
  have h5 := h4.trans (same_evictServicesPhase _ now)
  unfold tailOuts
  refine ((((AllOrigin.append ?_ ?_).append ?_).append ?_).append ?_).append ?_
  · exact ho
  · exact (origin_rerunPhase _ now).2.pull hc (fun _ h => nomatch h) (fun _ h => h)
  · exact (origin_refreshActive _ post _ now).pull (hc.trans (h2.from _)) (fun _ h => h) (fun _ h => h)
  · exact (origin_refreshResolvers _ post _ now).pull (hc.trans (h3.from _)) (fun _ h => h) (fun _ h => h)
  · exact (origin_evictServicesPhase _ post _ now).pull (hc.trans (h4.from _)) (fun _ h => h) (fun _ h => h)
  · exact (origin_evictAddrPhase _ post _ now).pull (hc.trans (h5.from _)) (fun _ h => h) (fun _ h => h)

theorem preCommands_queriers (s : State) (now : Nat) (pkts : List Packet) : (preCommands s now pkts).queriers = s.queriers :=
  (same_afterPop s now pkts).queriers

theorem preCommands_cacheOnly (s : State) (now : Nat) (pkts : List Packet) : (preCommands s now pkts).cacheOnly = s.cacheOnly :=
  (same_afterPop s now pkts).cacheOnly

theorem origin_preCommands (s : State) (cmds : List Command) (rcs : List RClass) (now : Nat) (pkts : List Packet) :
    AllOrigin s cmds rcs ((ingress s now pkts).2 ++ (runTimeouts (popTimers (ingress s now pkts).1 now) now).2) :=
  (origin_ingress cmds rcs now pkts s).append
    ((origin_runTimeouts (afterPop s now pkts) cmds rcs now).same (same_afterPop s now pkts))

/-- **cause of every output of an iteration**, in terms of the state it starts from -/
theorem origin_iter (s : State) (now : Nat) (pkts : List Packet) (cmds : List Command) :
    AllOrigin s cmds (midClasses (preCommands s now pkts) now cmds) (iter s now pkts cmds).2 := by
  rw [(iter_tail s now pkts cmds).2]
  refine (origin_preCommands s cmds _ now pkts).append ((origin_tail (preCommands s now pkts) now cmds).pull ?_
    (fun _ h => h) (fun _ h => h))
  exact .of_sub cmds (preCommands_queriers s now pkts) (preCommands_cacheOnly s now pkts) (preCommands_resolvers_sub s now pkts)

end Mdns.Client
