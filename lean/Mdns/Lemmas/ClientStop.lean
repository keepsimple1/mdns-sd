import Mdns.Lemmas.ClientOrigin
/-
  C13 on the client model: invariants of the searches that every phase preserves (`SInv`:
  a channel is free, a browse is gone, a hostname search is gone; `CacheOnlyDaemon`), and what
  they exclude among the outputs.
-/
namespace Mdns.Client
open Mdns Mdns.Rec Mdns.Cache

/-- an invariant of the searches: every browse satisfies `A`, every hostname search `B`, the
    key of every queued re-run `C` -/
structure SInv (A : BList × Nat → Prop) (B : BList × Nat × Option Nat → Prop)
    (C : Option (Nat × BList × Nat) → Prop) (s : State) : Prop where
  queriers : ∀ q ∈ s.queriers, A q
  resolvers : ∀ q ∈ s.resolvers, B q
  reruns : ∀ r ∈ s.reruns, C (rkey r.cmd)

variable {A : BList × Nat → Prop} {B : BList × Nat × Option Nat → Prop} {C : Option (Nat × BList × Nat) → Prop}
variable {now : Nat} {cmds : List Command} {KeyOK : Option (Nat × BList × Nat) → Prop} {OK : Nat → Prop}

theorem SInv.of_eq {s s' : State} (h : SInv A B C s) (hq : s'.queriers = s.queriers) (hv : s'.resolvers = s.resolvers)
    (hr : s'.reruns = s.reruns) : SInv A B C s' :=
  ⟨hq ▸ h.queriers, hv ▸ h.resolvers, hr ▸ h.reruns⟩

theorem SInv.step {s s' : State} (hst : Step now cmds KeyOK OK s s') (hi : SInv A B C s)
    (hA : ∀ ty ch co, Command.browse ty ch co ∈ cmds → A (ty, ch))
    (hB : ∀ h ch t dl, Command.resolveHost h ch t ∈ cmds → B (lower h, ch, dl))
    (hC : ∀ k, KeyOK k → C k) : SInv A B C s' := by
  refine ⟨?_, ?_, ?_⟩
  · intro q hq
    rcases hst.queriers q hq with h | ⟨co, h⟩
    · exact hi.queriers q h
    · exact hA q.1 q.2 co h
  · intro q hq
    rcases hst.resolvers q hq with h | ⟨h0, t, h1, h2, _⟩
    · exact hi.resolvers q h
    · have := hB h0 q.2.1 t q.2.2 h1
      rw [← h2] at this
      exact this
  · intro r hr
    rcases hst.reruns r hr with h | ⟨_, _, _, h⟩
    · exact hi.reruns r h
    · exact hC _ h

theorem delayOk_of_step {s s' : State} (hst : Step now cmds KeyOK OK s s') (hD : ∀ r ∈ s.reruns, DelayOk r) :
    ∀ r ∈ s'.reruns, DelayOk r := by
  intro r hr
  rcases hst.reruns r hr with h | ⟨_, _, h, _⟩
  · exact hD r h
  · exact h

theorem step_tail (x : State) (now : Nat) (post : List Command) (hD : ∀ r ∈ x.reruns, DelayOk r) :
    Step now post (KeyIter post x.reruns) (fun _ => True) x (runCommands x now post).1 ∧
    Step now post (KeyIter post x.reruns) (fun _ => True) x (tailState x now post) := by
  have hk : KeyIter post x.reruns none := Or.inl rfl
  have h2 := step_runCommands (now := now) (cmds := post) (KeyOK := KeyIter post x.reruns) (OK := fun _ => True) hk post x
    (fun _ h => h) (fun _ _ _ _ => trivial) (fun c hc => Or.inr (Or.inl ⟨c, hc, rfl⟩))
  have hall : ∀ r ∈ (runCommands x now post).1.reruns, DelayOk r ∧ KeyIter post x.reruns (rkey r.cmd) := by
    intro r hr
    rcases h2.reruns r hr with h | ⟨_, _, h3, h4⟩
    · exact ⟨hD r h, Or.inr (Or.inr ⟨r, h, rfl⟩)⟩
    · exact ⟨h3, h4⟩
  exact ⟨h2, ((((h2.trans (step_rerunPhase _ hk (fun _ _ _ _ => trivial) hall)).trans
    (step_refreshActive _ fun _ _ => trivial)).trans (step_refreshResolvers _)).trans
    (step_evictServicesPhase _)).trans (step_evictAddrPhase _ trivial hk)⟩

theorem delayOk_runCommands (x : State) (now : Nat) (l : List Command) (hD : ∀ r ∈ x.reruns, DelayOk r) :
    ∀ r ∈ (runCommands x now l).1.reruns, DelayOk r :=
  delayOk_of_step (step_runCommands (now := now) (cmds := l) (KeyOK := fun _ => True) (OK := fun _ => True) trivial l x
    (fun _ h => h) (fun _ _ _ _ => trivial) (fun _ _ => trivial)) hD

theorem delayOk_execCommand (x : State) (now : Nat) (c : Command) (hD : ∀ r ∈ x.reruns, DelayOk r) :
    ∀ r ∈ (execCommand x now c).1.reruns, DelayOk r :=
  delayOk_runCommands x now [c] hD

theorem delayOk_preCommands (s : State) (now : Nat) (pkts : List Packet) (hD : ∀ r ∈ s.reruns, DelayOk r) :
    ∀ r ∈ (preCommands s now pkts).reruns, DelayOk r :=
  show ∀ r ∈ (ingress s now pkts).1.reruns, DelayOk r from
  delayOk_of_step (step_ingress (now := now) (cmds := []) (KeyOK := fun k => k = none) (OK := fun _ => True) rfl pkts s
    (fun _ _ => trivial)) hD

theorem delayOk_tail (x : State) (now : Nat) (post : List Command) (hD : ∀ r ∈ x.reruns, DelayOk r) :
    ∀ r ∈ (runIpCheck (tailState x now post) now).reruns, DelayOk r := by
  rw [runIpCheck_reruns]
  exact delayOk_of_step (step_tail x now post hD).2 hD

theorem delayOk_iteration (s : State) (now : Nat) (pkts : List Packet) (cmds : List Command)
    (hD : ∀ r ∈ s.reruns, DelayOk r) : ∀ r ∈ (Client.iter s now pkts cmds).1.reruns, DelayOk r := by
  rw [(iter_tail s now pkts cmds).1]
  exact delayOk_tail _ now cmds (delayOk_preCommands s now pkts hD)

theorem SInv.tail {x : State} (hi : SInv A B C x) (now : Nat) (post : List Command) (hD : ∀ r ∈ x.reruns, DelayOk r)
    (hA : ∀ ty ch co, Command.browse ty ch co ∈ post → A (ty, ch))
    (hB : ∀ h ch t dl, Command.resolveHost h ch t ∈ post → B (lower h, ch, dl))
    (hCn : C none) (hCc : ∀ c ∈ post, C (ckey c)) :
    SInv A B C (runCommands x now post).1 ∧ SInv A B C (runIpCheck (tailState x now post) now) := by
  have hC : ∀ k, KeyIter post x.reruns k → C k := by
    intro k hk
    rcases hk with rfl | ⟨c, hc, rfl⟩ | ⟨r0, hr0, rfl⟩
    · exact hCn
    · exact hCc c hc
    · exact hi.reruns r0 hr0
  obtain ⟨h2, ht⟩ := step_tail x now post hD
  have hs := same_runIpCheck (tailState x now post) now
  exact ⟨SInv.step h2 hi hA hB hC, (SInv.step ht hi hA hB hC).of_eq hs.queriers hs.resolvers (runIpCheck_reruns _ now)⟩

theorem SInv.preCommands {s : State} (hi : SInv A B C s) (now : Nat) (pkts : List Packet) (hCn : C none) :
    SInv A B C (preCommands s now pkts) := by
  have hA := step_ingress (now := now) (cmds := []) (KeyOK := fun k => k = none) (OK := fun _ => True) rfl pkts s
    (fun _ _ => trivial)
  have h1 : SInv A B C (ingress s now pkts).1 :=
    SInv.step hA hi (fun _ _ _ h => by cases h) (fun _ _ _ _ h => by cases h) (fun k hk => hk ▸ hCn)
  refine ⟨h1.queriers, fun q hq => h1.resolvers q ?_, h1.reruns⟩
  simp only [Client.preCommands, runTimeouts, popTimers, List.mem_filter] at hq
  exact hq.1

theorem SInv.iter {s : State} (hi : SInv A B C s) (now : Nat) (pkts : List Packet) (cmds : List Command)
    (hD : ∀ r ∈ s.reruns, DelayOk r)
    (hA : ∀ ty ch co, Command.browse ty ch co ∈ cmds → A (ty, ch))
    (hB : ∀ h ch t dl, Command.resolveHost h ch t ∈ cmds → B (lower h, ch, dl))
    (hCn : C none) (hCc : ∀ c ∈ cmds, C (ckey c)) :
    SInv A B C (Client.iter s now pkts cmds).1 := by
  rw [(iter_tail s now pkts cmds).1]
  exact ((hi.preCommands now pkts hCn).tail now cmds (delayOk_preCommands s now pkts hD) hA hB hCn hCc).2

/-- no browse, no hostname search and no queued re-run reports to `ch` -/
def ChanFree (ch : Nat) : State → Prop :=
  SInv (fun q => q.2 ≠ ch) (fun q => q.2.1 ≠ ch) (fun k => ∀ x, k = some x → x.2.2 ≠ ch)

theorem rkey_of_class_browse {c : RCmd} {ty : BList} {ch : Nat} (h : rclass c = .browse ty ch) : rkey c = some (0, ty, ch) := by
  cases c <;> simp [rclass] at h
  obtain ⟨rfl, rfl⟩ := h
  rfl

theorem rkey_of_class_host {c : RCmd} {h0 : BList} {ch : Nat} (h : rclass c = .host h0 ch) : rkey c = some (1, h0, ch) := by
  cases c <;> simp [rclass] at h
  obtain ⟨rfl, rfl⟩ := h
  rfl

theorem SInv.midClasses_browse {x : State} {post : List Command} {ty : BList} {ch : Nat}
    (hi : SInv A B C (runCommands x now post).1) (h : RClass.browse ty ch ∈ midClasses x now post) : C (some (0, ty, ch)) := by
  obtain ⟨r, hr, hcl⟩ := List.mem_map.mp h
  exact rkey_of_class_browse hcl ▸ hi.reruns r hr

theorem SInv.midClasses_host {x : State} {post : List Command} {h0 : BList} {ch : Nat}
    (hi : SInv A B C (runCommands x now post).1) (h : RClass.host h0 ch ∈ midClasses x now post) : C (some (1, h0, ch)) := by
  obtain ⟨r, hr, hcl⟩ := List.mem_map.mp h
  exact rkey_of_class_host hcl ▸ hi.reruns r hr

theorem ckey_eq_some {c : Command} {y : Nat × BList × Nat} (h : ckey c = some y) :
    (y.1 = 0 ∧ ∃ co, c = .browse y.2.1 y.2.2 co) ∨ (y.1 = 1 ∧ ∃ t, c = .resolveHost y.2.1 y.2.2 t) := by
  cases c <;> simp only [ckey, Option.some.injEq, reduceCtorEq] at h
  · exact Or.inl (h ▸ ⟨rfl, _, rfl⟩)
  · exact Or.inr (h ▸ ⟨rfl, _, rfl⟩)

theorem no_event_of_chanFree (ch : Nat) (x : State) (cmds : List Command) (rcs : List RClass) (e : Ev)
    (hq : ∀ q ∈ x.queriers, q.2 ≠ ch) (hv : ∀ q ∈ x.resolvers, q.2.1 ≠ ch) (hc : ∀ c ∈ cmds, cchan c ≠ some ch)
    (hr : ∀ ty, RClass.browse ty ch ∉ rcs) (hr2 : ∀ h, RClass.host h ch ∉ rcs) :
    ¬ Origin x cmds rcs (.event ch e) := by
  intro h
  generalize ho : Out.event ch e = o at h
  cases h with
  | evQuerier q e' h1 =>
    cases ho
    exact hq q h1 rfl
  | evResolver q e' h1 =>
    cases ho
    exact hv q h1 rfl
  | evRerunB ty ch' e' h1 =>
    cases ho
    exact hr ty h1
  | evRerunH h0 ch' e' h1 _ =>
    cases ho
    exact hr2 h0 h1
  | evCommand c ch' e' h1 h2 =>
    cases ho
    exact hc c h1 h2
  | _ => cases ho

theorem cchan_of_ckey {c : Command} {y : Nat × BList × Nat} (h : ckey c = some y) : cchan c = some y.2.2 := by
  cases c <;> cases h <;> rfl

/-- `SInv A B C` constrains only what reports to `ch` -/
structure ChanGuard (ch : Nat) (A : BList × Nat → Prop) (B : BList × Nat × Option Nat → Prop)
    (C : Option (Nat × BList × Nat) → Prop) : Prop where
  querier : ∀ q, q.2 ≠ ch → A q
  resolver : ∀ q, q.2.1 ≠ ch → B q
  none : C none
  key : ∀ x, x.2.2 ≠ ch → C (some x)

theorem chanGuard_free (ch : Nat) :
    ChanGuard ch (fun q => q.2 ≠ ch) (fun q => q.2.1 ≠ ch) (fun k => ∀ x, k = some x → x.2.2 ≠ ch) :=
  ⟨fun _ h => h, fun _ h => h, fun _ hx => (nomatch hx), fun _ h _ hx => Option.some.inj hx ▸ h⟩

theorem chanGuard_onlyBrowse (ch : Nat) (ty : BList) :
    ChanGuard ch (fun q => q.2 = ch → q.1 = ty) (fun q => q.2.1 ≠ ch)
      (fun k => ∀ x, k = some x → x.2.2 = ch → x = (0, ty, ch)) :=
  ⟨fun _ h he => absurd he h, fun _ h => h, fun _ hx => (nomatch hx),
    fun _ h _ hx he => absurd (Option.some.inj hx ▸ he) h⟩

theorem chanGuard_onlyHost (ch : Nat) (key : BList) :
    ChanGuard ch (fun q => q.2 ≠ ch) (fun q => q.2.1 = ch → q.1 = key)
      (fun k => ∀ x, k = some x → x.2.2 = ch → x.1 = 1 ∧ lower x.2.1 = key) :=
  ⟨fun _ h => h, fun _ h he => absurd he h, fun _ hx => (nomatch hx),
    fun _ h _ hx he => absurd (Option.some.inj hx ▸ he) h⟩

section
variable {ch : Nat}

theorem ChanGuard.ckey (g : ChanGuard ch A B C) {c : Command} (hc : cchan c ≠ some ch) : C (ckey c) := by
  cases hk : Client.ckey c with
  | none => exact g.none
  | some y => exact g.key y fun he => hc (by rw [cchan_of_ckey hk, he])

theorem SInv.tail_of_chan (g : ChanGuard ch A B C) {x : State} (hi : SInv A B C x) (now : Nat) (post : List Command)
    (hD : ∀ r ∈ x.reruns, DelayOk r) (hc : ∀ c ∈ post, cchan c ≠ some ch) :
    SInv A B C (runCommands x now post).1 ∧ SInv A B C (runIpCheck (tailState x now post) now) :=
  hi.tail now post hD (fun ty ch' _ h => g.querier (ty, ch') fun he => hc _ h (congrArg some he))
    (fun h0 ch' _ dl h => g.resolver (lower h0, ch', dl) fun he => hc _ h (congrArg some he))
    g.none (fun c hcm => g.ckey (hc c hcm))

theorem SInv.iter_of_chan (g : ChanGuard ch A B C) {s : State} (hi : SInv A B C s) (now : Nat) (pkts : List Packet)
    (cmds : List Command) (hD : ∀ r ∈ s.reruns, DelayOk r) (hc : ∀ c ∈ cmds, cchan c ≠ some ch) :
    SInv A B C (Client.iter s now pkts cmds).1 :=
  hi.iter now pkts cmds hD (fun ty ch' _ h => g.querier (ty, ch') fun he => hc _ h (congrArg some he))
    (fun h0 ch' _ dl h => g.resolver (lower h0, ch', dl) fun he => hc _ h (congrArg some he))
    g.none (fun c hcm => g.ckey (hc c hcm))

end

theorem ChanGuard.of_free {ch : Nat} (g : ChanGuard ch A B C) {s : State} (hf : ChanFree ch s) : SInv A B C s := by
  refine ⟨fun q hq => g.querier q (hf.queriers q hq), fun q hq => g.resolver q (hf.resolvers q hq), fun r hr => ?_⟩
  cases hk : rkey r.cmd with
  | none => exact g.none
  | some x => exact g.key x (hf.reruns r hr x hk)

/-- **nothing on a free channel, tail of an iteration**: from a state in which nobody uses `ch`,
    with commands that do not mention `ch`, the rest of the iteration emits no event on `ch` and
    leaves `ch` free -/
theorem chanFree_tail (ch : Nat) (x : State) (now : Nat) (post : List Command) (hf : ChanFree ch x)
    (hD : ∀ r ∈ x.reruns, DelayOk r) (hc : ∀ c ∈ post, cchan c ≠ some ch) :
    (∀ e, Out.event ch e ∉ tailOuts x now post) ∧ ChanFree ch (runIpCheck (tailState x now post) now) := by
  have ht := SInv.tail_of_chan (chanGuard_free ch) hf now post hD hc
  refine ⟨fun e he => ?_, ht.2⟩
  exact no_event_of_chanFree ch x post (midClasses x now post) e hf.queriers hf.resolvers hc
    (fun ty hm => ht.1.midClasses_browse hm _ rfl rfl) (fun h0 hm => ht.1.midClasses_host hm _ rfl rfl)
    (origin_tail x now post _ he)

theorem chanFree_iter (ch : Nat) (s : State) (now : Nat) (pkts : List Packet) (cmds : List Command) (hf : ChanFree ch s)
    (hD : ∀ r ∈ s.reruns, DelayOk r) (hc : ∀ c ∈ cmds, cchan c ≠ some ch) :
    (∀ e, Out.event ch e ∉ (Client.iter s now pkts cmds).2) ∧ ChanFree ch (Client.iter s now pkts cmds).1 :=
  iter_of_tail (Out.event ch) s now pkts cmds
    (fun e he => no_event_of_chanFree ch s [] [] e hf.queriers hf.resolvers (fun _ h => nomatch h)
      (fun _ h => nomatch h) (fun _ h => nomatch h) (origin_preCommands s [] [] now pkts _ he))
    (chanFree_tail ch _ now cmds (SInv.preCommands hf now pkts fun _ hx => nomatch hx) (delayOk_preCommands s now pkts hD) hc)

/-- nothing is browsed for `ty` and no retransmission of a browse of `ty` is queued -/
def BrowseGone (ty : BList) : State → Prop :=
  SInv (fun q => q.1 ≠ ty) (fun _ => True) (fun k => ∀ x, k = some x → ¬ (x.1 = 0 ∧ x.2.1 = ty))

theorem no_ptr_query (ty : BList) (x : State) (cmds : List Command) (rcs : List RClass) (known : List Record)
    (hq : ∀ q ∈ x.queriers, q.1 ∉ x.cacheOnly → q.1 ≠ ty) (hc : ∀ ch co, Command.browse ty ch co ∉ cmds)
    (hr : ∀ ch, RClass.browse ty ch ∉ rcs) : ¬ Origin x cmds rcs (.query [(ty, 12)] known) := by
  intro h
  generalize ho : Out.query [(ty, 12)] known = o at h
  cases h with
  | ptrQuerier q known' h1 h1a =>
    simp only [Out.query.injEq, List.cons.injEq, Prod.mk.injEq, and_true] at ho
    exact hq q h1 h1a ho.1.symm
  | ptrRerun ty' ch known' h1 =>
    simp only [Out.query.injEq, List.cons.injEq, Prod.mk.injEq, and_true] at ho
    exact hr ch (ho.1 ▸ h1)
  | ptrCommand ty' ch known' h1 =>
    simp only [Out.query.injEq, List.cons.injEq, Prod.mk.injEq, and_true] at ho
    exact hc ch false (ho.1 ▸ h1)
  | addrRefresh key t known' h1 h2 =>
    simp only [Out.query.injEq, List.cons.injEq, Prod.mk.injEq, and_true] at ho
    omega
  | anyFollowup inst known' h1 => simp at ho
  | srvTxtRefresh inst ts known' h1 h2 =>
    simp only [Out.query.injEq] at ho
    cases ts with
    | nil => simp at ho
    | cons t rest =>
      simp only [List.map_cons, List.cons.injEq, Prod.mk.injEq] at ho
      have := h2 t List.mem_cons_self
      omega
  | verifyQuery inst qs known' h1 => simp at ho
  | hostRerun => simp at ho
  | hostCommand => simp at ho
  | hostFollowup => simp at ho
  | hostOfService => simp at ho
  | evQuerier => cases ho
  | evResolver => cases ho
  | evRerunB => cases ho
  | evRerunH => cases ho
  | evCommand => cases ho

/-- **no PTR query for a type, tail of an iteration**: no active browse of `ty`, no browse
    retransmission of `ty` queued, no command that browses `ty` -/
theorem noPtr_tail (ty : BList) (x : State) (now : Nat) (post : List Command)
    (hf : SInv A (fun _ => True) (fun k => ∀ x, k = some x → ¬ (x.1 = 0 ∧ x.2.1 = ty)) x)
    (hq : ∀ q ∈ x.queriers, q.1 ∉ x.cacheOnly → q.1 ≠ ty) (hD : ∀ r ∈ x.reruns, DelayOk r)
    (hA : ∀ ty' ch co, Command.browse ty' ch co ∈ post → A (ty', ch)) (hc : ∀ ch co, Command.browse ty ch co ∉ post) :
    (∀ known, Out.query [(ty, 12)] known ∉ tailOuts x now post) ∧
    SInv A (fun _ => True) (fun k => ∀ x, k = some x → ¬ (x.1 = 0 ∧ x.2.1 = ty)) (runIpCheck (tailState x now post) now) := by
  have ht := SInv.tail hf now post hD hA (fun _ _ _ _ _ => trivial) (fun x hx => nomatch hx) (by
    intro c hcm y hy he
    rcases ckey_eq_some hy with ⟨_, co, rfl⟩ | ⟨h1, _⟩
    · exact hc _ co (he.2 ▸ hcm)
    · omega)
  refine ⟨fun known hk => ?_, ht.2⟩
  exact no_ptr_query ty x post (midClasses x now post) known hq hc
    (fun ch hm => ht.1.midClasses_browse hm _ rfl ⟨rfl, rfl⟩) (origin_tail x now post _ hk)

theorem noPtr_iter (ty : BList) (s : State) (now : Nat) (pkts : List Packet) (cmds : List Command)
    (hf : SInv A (fun _ => True) (fun k => ∀ x, k = some x → ¬ (x.1 = 0 ∧ x.2.1 = ty)) s)
    (hq : ∀ q ∈ s.queriers, q.1 ∉ s.cacheOnly → q.1 ≠ ty) (hD : ∀ r ∈ s.reruns, DelayOk r)
    (hA : ∀ ty' ch co, Command.browse ty' ch co ∈ cmds → A (ty', ch)) (hc : ∀ ch co, Command.browse ty ch co ∉ cmds) :
    (∀ known, Out.query [(ty, 12)] known ∉ (Client.iter s now pkts cmds).2) ∧
    SInv A (fun _ => True) (fun k => ∀ x, k = some x → ¬ (x.1 = 0 ∧ x.2.1 = ty)) (Client.iter s now pkts cmds).1 :=
  iter_of_tail (Out.query [(ty, 12)]) s now pkts cmds
    (fun known he => no_ptr_query ty s [] [] known hq (fun _ _ h => nomatch h) (fun _ h => nomatch h)
      (origin_preCommands s [] [] now pkts _ he))
    (noPtr_tail ty _ now cmds (SInv.preCommands hf now pkts fun _ hx => nomatch hx)
      (by rw [preCommands_queriers, preCommands_cacheOnly]; exact hq) (delayOk_preCommands s now pkts hD) hA hc)

theorem browseGone_tail (ty : BList) (x : State) (now : Nat) (post : List Command) (hf : BrowseGone ty x)
    (hD : ∀ r ∈ x.reruns, DelayOk r) (hc : ∀ ch co, Command.browse ty ch co ∉ post) :
    (∀ known, Out.query [(ty, 12)] known ∉ tailOuts x now post) ∧ BrowseGone ty (runIpCheck (tailState x now post) now) :=
  noPtr_tail ty x now post hf (fun q hq _ => hf.queriers q hq) hD (fun _ ch' co h he => hc ch' co (he ▸ h)) hc

theorem browseGone_iter (ty : BList) (s : State) (now : Nat) (pkts : List Packet) (cmds : List Command) (hf : BrowseGone ty s)
    (hD : ∀ r ∈ s.reruns, DelayOk r) (hc : ∀ ch co, Command.browse ty ch co ∉ cmds) :
    (∀ known, Out.query [(ty, 12)] known ∉ (Client.iter s now pkts cmds).2) ∧ BrowseGone ty (Client.iter s now pkts cmds).1 :=
  noPtr_iter ty s now pkts cmds hf (fun q hq _ => hf.queriers q hq) hD (fun _ ch' co h he => hc ch' co (he ▸ h)) hc

/-! ### a cache-only browse: no PTR query for its type (D23) -/

/-- `ty` is in the set of cache-only types and no retransmission of a browse of `ty` is queued:
    the way `browse_cache(ty)` leaves the state -/
def CacheOnlyQuiet (ty : BList) (s : State) : Prop :=
  ty ∈ s.cacheOnly ∧
  SInv (fun _ => True) (fun _ => True) (fun k => ∀ x, k = some x → ¬ (x.1 = 0 ∧ x.2.1 = ty)) s

theorem cacheOnly_execCommand_keep (ty : BList) (s : State) (now : Nat) (c : Command)
    (hb : ∀ ch co, c ≠ .browse ty ch co) (hs : c ≠ .stopBrowse ty) (h : ty ∈ s.cacheOnly) :
    ty ∈ (execCommand s now c).1.cacheOnly := by
  rcases execCommand_browses s now c with ⟨ty', ch, co, rfl⟩ | ⟨ty', rfl⟩ | ⟨_, e2⟩
  · have hne : ty ≠ ty' := fun e => hb ch co (by rw [e])
    rw [execCommand_browse_cacheOnly]
    cases co
    · exact List.mem_filter.mpr ⟨h, by simpa using hne⟩
    · exact (mem_insertSet _ _ _).mpr (Or.inl h)
  · have hne : ty ≠ ty' := fun e => hs (by rw [e])
    simp only [execCommand, execStopBrowse]
    split
    · exact h
    · exact List.mem_filter.mpr ⟨h, by simpa using hne⟩
  · exact e2 ▸ h

theorem cacheOnly_runCommands_keep (ty : BList) (now : Nat) (l : List Command) (s : State)
    (hb : ∀ ch co, Command.browse ty ch co ∉ l) (hs : Command.stopBrowse ty ∉ l) (h : ty ∈ s.cacheOnly) :
    ty ∈ (runCommands s now l).1.cacheOnly :=
  runCommands_induct (P := fun s => ty ∈ s.cacheOnly) (ok := fun c => (∀ ch co, c ≠ .browse ty ch co) ∧ c ≠ .stopBrowse ty)
    now (fun s c hc h => cacheOnly_execCommand_keep ty s now c hc.1 hc.2 h) l s
    (fun _ hc => ⟨fun ch co e => hb ch co (e ▸ hc), fun e => hs (e ▸ hc)⟩) h

/-- **no PTR query for a cache-only type, tail of an iteration**: from a state in which `ty` is
    cache-only with no browse retransmission queued, with commands that neither browse nor stop
    `ty`, the rest of the iteration asks no PTR question for `ty` and leaves `ty` as it was -/
theorem cacheOnlyQuiet_tail (ty : BList) (x : State) (now : Nat) (post : List Command) (hf : CacheOnlyQuiet ty x)
    (hD : ∀ r ∈ x.reruns, DelayOk r) (hc : ∀ ch co, Command.browse ty ch co ∉ post) (hs : Command.stopBrowse ty ∉ post) :
    (∀ known, Out.query [(ty, 12)] known ∉ tailOuts x now post) ∧
    CacheOnlyQuiet ty (runIpCheck (tailState x now post) now) := by
  obtain ⟨h1, h2⟩ := noPtr_tail ty x now post hf.2 (fun q _ hqa hty => hqa (hty ▸ hf.1)) hD (fun _ _ _ _ => trivial) hc
  refine ⟨h1, ?_, h2⟩
  rw [(same_tail x now post).cacheOnly]
  exact cacheOnly_runCommands_keep ty now post x hc hs hf.1

theorem cacheOnlyQuiet_iter (ty : BList) (s : State) (now : Nat) (pkts : List Packet) (cmds : List Command)
    (hf : CacheOnlyQuiet ty s) (hD : ∀ r ∈ s.reruns, DelayOk r) (hc : ∀ ch co, Command.browse ty ch co ∉ cmds)
    (hs : Command.stopBrowse ty ∉ cmds) :
    (∀ known, Out.query [(ty, 12)] known ∉ (Client.iter s now pkts cmds).2) ∧
    CacheOnlyQuiet ty (Client.iter s now pkts cmds).1 := by
  obtain ⟨h1, h2⟩ := noPtr_iter ty s now pkts cmds hf.2 (fun q _ hqa hty => hqa (hty ▸ hf.1)) hD (fun _ _ _ _ => trivial) hc
  refine ⟨h1, ?_, h2⟩
  rw [(iter_tail s now pkts cmds).1, (same_tail _ now cmds).cacheOnly]
  exact cacheOnly_runCommands_keep ty now cmds _ hc hs ((preCommands_cacheOnly s now pkts).symm ▸ hf.1)

/-- no hostname search for `key` (a lower-cased name) is open and no retransmission of one is queued -/
def HostGone (key : BList) : State → Prop :=
  SInv (fun _ => True) (fun q => q.1 ≠ key) (fun k => ∀ x, k = some x → ¬ (x.1 = 1 ∧ lower x.2.1 = key))

/-- the queries a hostname search for `key` causes: A + AAAA for a name that lower-cases to
    `key`, or the refresh of one address -/
def asksHost (key : BList) : Out → Bool
  | .query [(h, 1), (h', 28)] _ => lower h == key && h == h'
  | .query [(n, t)] _ => n == key && (t == 1 || t == 28)
  | _ => false

theorem no_host_query (key : BList) (x : State) (cmds : List Command) (rcs : List RClass) (o : Out)
    (hask : asksHost key o = true)
    (hv : ∀ q ∈ x.resolvers, q.1 ≠ key) (hc : ∀ h ch t, Command.resolveHost h ch t ∈ cmds → lower h ≠ key)
    (hr : ∀ h ch, RClass.host h ch ∈ rcs → lower h ≠ key) (hnf : RClass.followup ∉ rcs)
    (hnb : ¬ Browsing x cmds) : ¬ Origin x cmds rcs o := by
  have hopen : ¬ HostOpen x cmds key := by
    rintro (⟨q, hq, hk⟩ | ⟨h, ch, t, hm, hk⟩)
    · exact hv q hq hk
    · exact hc h ch t hm hk
  intro h
  cases h with
  | hostRerun h0 ch known h1 h2 =>
    simp only [asksHost, Bool.and_eq_true, beq_iff_eq, and_true] at hask
    exact hr h0 ch h1 hask
  | hostCommand h0 ch t known h1 =>
    simp only [asksHost, Bool.and_eq_true, beq_iff_eq, and_true] at hask
    exact hc h0 ch t h1 hask
  | hostFollowup h0 known h1 => exact hnf h1
  | hostOfService h0 known h1 => exact hnb h1
  | addrRefresh key' t known h1 h2 =>
    simp only [asksHost, Bool.and_eq_true, beq_iff_eq] at hask
    exact hopen (hask.1 ▸ h1)
  | srvTxtRefresh inst ts known h1 h2 => exact hnb h1
  | ptrQuerier q known h1 => simp [asksHost] at hask
  | ptrRerun ty ch known h1 => simp [asksHost] at hask
  | ptrCommand ty ch known h1 => simp [asksHost] at hask
  | anyFollowup inst known h1 => simp [asksHost] at hask
  | verifyQuery inst qs known h1 =>
    cases qs with
    | nil => simp [asksHost] at hask
    | cons q1 rest =>
      cases rest with
      | nil => simp [asksHost] at hask
      | cons q2 rest2 => simp [asksHost] at hask
  | evQuerier => simp [asksHost] at hask
  | evResolver => simp [asksHost] at hask
  | evRerunB => simp [asksHost] at hask
  | evRerunH => simp [asksHost] at hask
  | evCommand => simp [asksHost] at hask

/-- nothing is browsed and no follow-up of a resolution is queued (what `hostGone_tail` needs besides `HostGone`:
    a resolution's follow-ups, which browses cause, also send address queries) -/
def NoBrowseWork (s : State) : Prop := s.queriers = [] ∧ ∀ r ∈ s.reruns, rclass r.cmd ≠ .followup

def isBrowseCommand : Command → Bool
  | .browse _ _ _ => true
  | _ => false

/-! no follow-up is queued on behalf of cache-only browses (D23b), so none at all
    where every browse is cache-only - in particular where nothing is browsed -/

/-- every browse is cache-only -/
def AllCacheOnly (s : State) : Prop := ∀ q ∈ s.queriers, q.1 ∈ s.cacheOnly

theorem AllCacheOnly.of_eq {s s' : State} (h : AllCacheOnly s) (hq : s'.queriers = s.queriers)
    (hc : s'.cacheOnly = s.cacheOnly) : AllCacheOnly s' :=
  fun q hq' => hc ▸ h q (hq ▸ hq')

theorem allCacheOnly_of_no_browse {s : State} (h : s.queriers = []) : AllCacheOnly s :=
  fun _ hq => nomatch h ▸ hq

theorem resolveUpdated_co_reruns (s : State) (now : Nat) (u : List BList) (h : AllCacheOnly s) :
    (resolveUpdated s now u).1.reruns = s.reruns := by
  unfold resolveUpdated
  split
  · rfl
  · have hf : ((visits s now u).filter fun v => !visitValid s.cache now v).filter
        (fun v => !s.cacheOnly.contains v.1) = [] := by
      rw [List.filter_eq_nil_iff]
      intro v hv
      have := h _ (mem_visits_querier s now u v (List.mem_filter.mp hv).1)
      simpa using this
    simp only [hf, List.map_nil, List.eraseDups_nil, addPendings]
    rfl

theorem handleRead_co_reruns (s : State) (now : Nat) (p : Packet) (h : AllCacheOnly s) :
    (handleRead s now p).1.reruns = s.reruns := by
  rcases handleRead_cases s now p with e | ⟨intf, e⟩ <;> rw [e]
  exact resolveUpdated_co_reruns (addTimers { s with cache := _ } _) now _ h

theorem ingress_co_reruns (now : Nat) : ∀ (pkts : List Packet) (s : State), AllCacheOnly s →
    (ingress s now pkts).1.reruns = s.reruns
  | [], _, _ => rfl
  | p :: rest, s, h => by
    have hs := same_handleRead s now p
    simp only [ingress]
    rw [ingress_co_reruns now rest _ (h.of_eq hs.queriers hs.cacheOnly), handleRead_co_reruns s now p h]

theorem evictAddrHosts_co_reruns (now : Nat) (items : List (BList × BList × BList × Nat)) :
    ∀ (hosts : List BList) (s : State), AllCacheOnly s → (evictAddrHosts s now items hosts).1.reruns = s.reruns
  | [], _, _ => rfl
  | h :: rest, s, hc => by
    have hs := same_resolveUpdated s now (instancesOnHost s.cache h)
    simp only [evictAddrHosts]
    rw [evictAddrHosts_co_reruns now items rest _ (hc.of_eq hs.queriers hs.cacheOnly), resolveUpdated_co_reruns s now _ hc]

theorem evictAddrPhase_co_reruns (s : State) (now : Nat) (h : AllCacheOnly s) : (evictAddrPhase s now).1.reruns = s.reruns :=
  evictAddrHosts_co_reruns now _ _ { s with cache := _ } h

theorem tail_co_reruns (x : State) (now : Nat) (post : List Command) (h : AllCacheOnly (runCommands x now post).1) :
    (runIpCheck (tailState x now post) now).reruns = (rerunPhase (runCommands x now post).1 now).1.reruns := by
  have hs := (same_refreshPhases (runCommands x now post).1 now).trans (same_evictServicesPhase _ now)
  rw [runIpCheck_reruns, tailState_eq]
  simp only [evictPhases]
  rw [evictAddrPhase_co_reruns _ now (h.of_eq hs.queriers hs.cacheOnly)]
  simp only [refreshPhases, evictServicesPhase_reruns, refreshResolvers_reruns, refreshActive_reruns]

theorem execResolveHost_new_reruns (s : State) (now : Nat) (h : BList) (d ch : Nat) (t : Option Nat) :
    ∀ r ∈ (execResolveHost s now false h d ch t).1.reruns,
      r ∈ s.reruns.filter (fun r => !isResolveOf (lower h) r) ∨ r.cmd = .resolveHost h (Sched.nextDelay d) ch := by
  intro r hr
  unfold execResolveHost at hr
  simp only [Bool.false_and, Bool.false_eq_true, if_false] at hr
  exact (mem_reruns_ite_addRerun hr).imp id (congrArg Rerun.cmd)

theorem nbw_execCommand (s : State) (now : Nat) (c : Command) (hc : isBrowseCommand c = false) (h : NoBrowseWork s) :
    NoBrowseWork (execCommand s now c).1 := by
  obtain ⟨hq, hr⟩ := h
  cases c with
  | browse ty ch co => simp [isBrowseCommand] at hc
  | stopBrowse ty =>
    simp only [execCommand, execStopBrowse, hq, List.find?_nil]
    exact ⟨hq, hr⟩
  | resolveHost h0 ch t =>
    refine ⟨?_, ?_⟩
    · rcases execCommand_browses s now (.resolveHost h0 ch t) with ⟨_, _, _, e⟩ | ⟨_, e⟩ | ⟨e1, _⟩
      · cases e
      · cases e
      · exact e1.trans hq
    · intro r hr'
      rcases execResolveHost_new_reruns s now h0 1 ch t r hr' with h1 | h1
      · exact hr r (List.mem_filter.mp h1).1
      · rw [h1]
        simp [rclass]
  | stopResolve h0 =>
    simp only [execCommand, execStopResolve]
    split
    · exact ⟨hq, hr⟩
    · exact ⟨hq, fun r hr' => hr r (List.mem_filter.mp hr').1⟩
  | ipInterval ms => exact ⟨hq, hr⟩
  | verify inst t =>
    simp only [execCommand, execVerify, Bool.false_eq_true, if_false]
    split
    · exact ⟨hq, hr⟩
    · refine ⟨hq, ?_⟩
      intro r hr'
      simp only [addRerun, addTimers, List.mem_append, List.mem_singleton] at hr'
      rcases hr' with hr' | rfl
      · exact hr r hr'
      · simp [rclass]
  | metrics ch => exact ⟨hq, hr⟩
  | acceptUnsolicited on => exact ⟨hq, hr⟩

theorem nbw_runCommands (now : Nat) (l : List Command) (s : State) (hc : l.all (fun c => !isBrowseCommand c) = true)
    (h : NoBrowseWork s) : NoBrowseWork (runCommands s now l).1 :=
  runCommands_induct (ok := fun c => isBrowseCommand c = false) now (fun s c => nbw_execCommand s now c) l s
    (fun c hm => by simpa using List.all_eq_true.mp hc c hm) h

theorem nbw_tail (x : State) (now : Nat) (post : List Command) (hc : post.all (fun c => !isBrowseCommand c) = true)
    (h : NoBrowseWork x) :
    NoBrowseWork (runCommands x now post).1 ∧ NoBrowseWork (runIpCheck (tailState x now post) now) := by
  have h1 := nbw_runCommands now post x hc h
  refine ⟨h1, (same_tail x now post).queriers.trans h1.1, fun r hr hcl => ?_⟩
  rw [tail_co_reruns x now post (allCacheOnly_of_no_browse h1.1)] at hr
  obtain ⟨r0, hr0, hcl0⟩ := List.mem_map.mp ((origin_rerunPhase _ now).1 r hr)
  exact h1.2 r0 hr0 (hcl0.trans hcl)

theorem nbw_preCommands (s : State) (now : Nat) (pkts : List Packet) (h : NoBrowseWork s) :
    NoBrowseWork (preCommands s now pkts) := by
  refine ⟨(preCommands_queriers s now pkts).trans h.1, ?_⟩
  show ∀ r ∈ (ingress s now pkts).1.reruns, rclass r.cmd ≠ .followup
  rw [ingress_co_reruns now pkts s (allCacheOnly_of_no_browse h.1)]
  exact h.2

theorem not_browsing_of_nbw {x : State} {cmds : List Command} (hw : NoBrowseWork x)
    (hb : cmds.all (fun c => !isBrowseCommand c) = true) : ¬ Browsing x cmds := by
  rintro (⟨q, hq, _⟩ | ⟨ty, ch, h⟩)
  · exact nomatch hw.1 ▸ hq
  · exact nomatch List.all_eq_true.mp hb _ h

theorem hostGone_tail (key : BList) (x : State) (now : Nat) (post : List Command) (hf : HostGone key x)
    (hw : NoBrowseWork x) (hD : ∀ r ∈ x.reruns, DelayOk r)
    (hc : ∀ h ch t, Command.resolveHost h ch t ∈ post → lower h ≠ key)
    (hb : post.all (fun c => !isBrowseCommand c) = true) :
    (∀ o ∈ tailOuts x now post, asksHost key o = false) ∧ HostGone key (runIpCheck (tailState x now post) now) ∧
    NoBrowseWork (runIpCheck (tailState x now post) now) := by
  have ht := SInv.tail hf now post hD (fun _ _ _ _ => trivial) (fun h ch t dl hm => hc h ch t hm) (fun x hx => nomatch hx) (by
    intro c hcm y hy he
    rcases ckey_eq_some hy with ⟨h0, _⟩ | ⟨_, t, rfl⟩
    · omega
    · exact hc _ _ t hcm he.2)
  have hn := nbw_tail x now post hb hw
  refine ⟨fun o ho => Bool.eq_false_iff.mpr fun hask => ?_, ht.2, hn.2⟩
  refine no_host_query key x post (midClasses x now post) o hask hf.resolvers hc
    (fun h ch hm he => ht.1.midClasses_host hm _ rfl ⟨rfl, he⟩) ?_ (not_browsing_of_nbw hw hb) (origin_tail x now post o ho)
  intro hm
  obtain ⟨r, hr, hcl⟩ := List.mem_map.mp hm
  exact hn.1.2 r hr hcl

theorem hostGone_iter (key : BList) (s : State) (now : Nat) (pkts : List Packet) (cmds : List Command) (hf : HostGone key s)
    (hw : NoBrowseWork s) (hD : ∀ r ∈ s.reruns, DelayOk r)
    (hc : ∀ h ch t, Command.resolveHost h ch t ∈ cmds → lower h ≠ key)
    (hb : cmds.all (fun c => !isBrowseCommand c) = true) :
    (∀ o ∈ (Client.iter s now pkts cmds).2, asksHost key o = false) ∧ HostGone key (Client.iter s now pkts cmds).1 ∧
    NoBrowseWork (Client.iter s now pkts cmds).1 := by
  have h1 := SInv.preCommands hf now pkts (fun x hx => nomatch hx)
  obtain ⟨h2, h3⟩ := hostGone_tail key _ now cmds h1 (nbw_preCommands s now pkts hw) (delayOk_preCommands s now pkts hD) hc hb
  rw [(iter_tail s now pkts cmds).1]
  refine ⟨fun o ho => ?_, h3⟩
  rw [(iter_tail s now pkts cmds).2] at ho
  rcases List.mem_append.mp ho with ho | ho
  · exact Bool.eq_false_iff.mpr fun hask => no_host_query key s [] [] o hask hf.resolvers (fun _ _ _ h => nomatch h)
      (fun _ _ h => nomatch h) (fun h => nomatch h) (not_browsing_of_nbw hw rfl) (origin_preCommands s [] [] now pkts o ho)
  · exact h2 o ho

/-- `ch` is used by the browse of `ty` and by nothing else -/
def OnlyBrowse (ch : Nat) (ty : BList) : State → Prop :=
  SInv (fun q => q.2 = ch → q.1 = ty) (fun q => q.2.1 ≠ ch) (fun k => ∀ x, k = some x → x.2.2 = ch → x = (0, ty, ch))

/-- `ch` is used by the hostname search for `key` and by nothing else -/
def OnlyHost (ch : Nat) (key : BList) : State → Prop :=
  SInv (fun q => q.2 ≠ ch) (fun q => q.2.1 = ch → q.1 = key)
    (fun k => ∀ x, k = some x → x.2.2 = ch → x.1 = 1 ∧ lower x.2.1 = key)

theorem rkey_of_not_browseOf {ty : BList} {r : Rerun} (h : r ∈ (l : List Rerun).filter (fun r => !isBrowseOf ty r))
    (x : Nat × BList × Nat) (hx : rkey r.cmd = some x) : ¬ (x.1 = 0 ∧ x.2.1 = ty) := by
  intro he
  have hnb := (List.mem_filter.mp h).2
  obtain ⟨n, c⟩ := r
  cases c <;> simp [rkey] at hx
  · subst hx
    simp only [isBrowseOf, Bool.not_eq_true', beq_eq_false_iff_ne] at hnb
    exact hnb he.2
  · subst hx
    simp at he

theorem rkey_of_not_resolveOf {key : BList} {r : Rerun} (h : r ∈ (l : List Rerun).filter (fun r => !isResolveOf key r))
    (x : Nat × BList × Nat) (hx : rkey r.cmd = some x) : ¬ (x.1 = 1 ∧ lower x.2.1 = key) := by
  intro he
  have hnb := (List.mem_filter.mp h).2
  obtain ⟨n, c⟩ := r
  cases c <;> simp [rkey] at hx
  · subst hx
    simp at he
  · subst hx
    simp only [isResolveOf, Bool.not_eq_true', beq_eq_false_iff_ne] at hnb
    exact hnb he.2

/-- **`stop_browse(ty)` on a running browse**: `SearchStopped` to its channel and nothing else;
    afterwards nothing is browsed or queued for `ty`; and if the channel was used by this browse
    only, nobody uses it any more -/
theorem stopBrowse_spec (s : State) (ty : BList) (ch : Nat) (hq : s.queriers.find? (·.1 == ty) = some (ty, ch)) :
    (execStopBrowse s ty).2 = [.event ch (.stopped ty)] ∧ BrowseGone ty (execStopBrowse s ty).1 ∧
    (OnlyBrowse ch ty s → ChanFree ch (execStopBrowse s ty).1) := by
  simp only [execStopBrowse, hq]
  refine ⟨trivial, ⟨?_, fun _ _ => trivial, fun _ => rkey_of_not_browseOf⟩, ?_⟩
  · intro q hq'
    have := (List.mem_filter.mp hq').2
    simpa using this
  · intro ho
    refine ⟨?_, ho.resolvers, ?_⟩
    · intro q hq' he
      obtain ⟨h1, h2⟩ := List.mem_filter.mp hq'
      have := ho.queriers q h1 he
      simp [this] at h2
    · intro r hr x hx he
      have h1 := ho.reruns r (List.mem_filter.mp hr).1 x hx he
      exact rkey_of_not_browseOf hr x hx (by rw [h1]; exact ⟨rfl, rfl⟩)

/-- **`stop_resolve_hostname(host)` on an open search**: `SearchStopped` to its channel and nothing
    else; afterwards no search and no retransmission for the name; and if the channel was used by
    this search only, nobody uses it any more -/
theorem stopResolve_spec (s : State) (host : BList) (ch : Nat) (dl : Option Nat)
    (hq : s.resolvers.find? (·.1 == lower host) = some (lower host, ch, dl)) :
    (execStopResolve s host).2 = [.event ch (.hstopped (lower host))] ∧ HostGone (lower host) (execStopResolve s host).1 ∧
    (OnlyHost ch (lower host) s → ChanFree ch (execStopResolve s host).1) := by
  simp only [execStopResolve, hq]
  refine ⟨trivial, ⟨fun _ _ => trivial, ?_, fun _ => rkey_of_not_resolveOf⟩, ?_⟩
  · intro q hq'
    have := (List.mem_filter.mp hq').2
    simpa using this
  · intro ho
    refine ⟨ho.queriers, ?_, ?_⟩
    · intro q hq' he
      obtain ⟨h1, h2⟩ := List.mem_filter.mp hq'
      have := ho.resolvers q h1 he
      simp [this] at h2
    · intro r hr x hx he
      have h1 := ho.reruns r (List.mem_filter.mp hr).1 x hx he
      exact rkey_of_not_resolveOf hr x hx h1

/-- **`browse_cache(ty)`**: only events on its channel - no query at all -; afterwards `ty` is
    cache-only with no browse retransmission queued (an earlier `browse(ty)` is replaced, its
    queued retransmission purged) -/
theorem browseCache_spec (s : State) (now : Nat) (ty : BList) (ch : Nat) :
    (∀ o ∈ (execCommand s now (.browse ty ch true)).2, ∃ e, o = .event ch e) ∧
    CacheOnlyQuiet ty (execCommand s now (.browse ty ch true)).1 := by
  have hst := step_queryCacheForService (now := now) (cmds := []) (KeyOK := fun k => k = none) (OK := fun _ => True)
    { s with reruns := s.reruns.filter (fun r => !isBrowseOf ty r),
             queriers := (ty, ch) :: s.queriers.filter (fun q => q.1 != ty),
             cacheOnly := insertSet s.cacheOnly ty } ty ch trivial rfl
  have hex : (execCommand s now (.browse ty ch true)).1 =
      (queryCacheForService
        { s with reruns := s.reruns.filter (fun r => !isBrowseOf ty r),
                 queriers := (ty, ch) :: s.queriers.filter (fun q => q.1 != ty),
                 cacheOnly := insertSet s.cacheOnly ty } now ty ch).1 := by
    simp only [execCommand, execBrowse, Bool.false_eq_true, if_false, if_true]
  refine ⟨?_, ?_, fun _ _ => trivial, fun _ _ => trivial, ?_⟩
  · intro o ho
    simp only [execCommand, execBrowse, Bool.false_eq_true, if_false, if_true, List.mem_append, List.mem_singleton] at ho
    rcases ho with (rfl | ho) | rfl
    · exact ⟨_, rfl⟩
    · exact mem_queryCacheForService_outs ho
    · exact ⟨_, rfl⟩
  · rw [execCommand_browse_cacheOnly]
    exact (mem_insertSet _ _ _).mpr (Or.inr rfl)
  · intro r hr x hx he
    rw [hex] at hr
    rcases hst.reruns r hr with h | ⟨_, _, _, h⟩
    · exact rkey_of_not_browseOf h x hx he
    · rw [h] at hx
      cases hx

/-! ### a daemon that only browses cache-only sends no query at all (D23: no refresh queries;
    D23b: no follow-up queries) -/

/-- the commands of a daemon that only browses cache-only: `browse_cache`, `stop_browse`,
    `stop_resolve_hostname`, `get_metrics`, the options - no `browse`, no `resolve_hostname`, no
    `verify` -/
def quietCommand : Command → Bool
  | .browse _ _ co => co
  | .resolveHost _ _ _ => false
  | .verify _ _ => false
  | _ => true

/-- every browse is cache-only, no hostname search is open, no re-run is queued (no browse or
    hostname retransmission, no follow-up `Resolve`, no `verify` resend) -/
def CacheOnlyDaemon (s : State) : Prop := AllCacheOnly s ∧ s.resolvers = [] ∧ s.reruns = []

theorem cacheOnlyDaemon_execCommand (s : State) (now : Nat) (c : Command) (hc : quietCommand c = true)
    (h : CacheOnlyDaemon s) : CacheOnlyDaemon (execCommand s now c).1 := by
  obtain ⟨ha, hv, hr⟩ := h
  cases c with
  | browse ty ch co =>
    have hco : co = true := hc
    subst hco
    refine ⟨?_, ?_, ?_⟩
    · intro q hq
      rw [execCommand_browse_queriers] at hq
      rw [execCommand_browse_cacheOnly]
      rcases List.mem_cons.mp hq with rfl | hq
      · exact (mem_insertSet _ _ _).mpr (Or.inr rfl)
      · exact (mem_insertSet _ _ _).mpr (Or.inl (ha q (List.mem_filter.mp hq).1))
    · exact (execBrowse_resolvers s now false ty 1 true ch).trans hv
    · -- `query_cache_for_service` makes nothing pending for a cache-only type
      have hin : (insertSet s.cacheOnly ty).contains ty = true := by
        simpa using (mem_insertSet s.cacheOnly ty ty).mpr (Or.inr rfl)
      simp only [execCommand, execBrowse, Bool.false_eq_true, if_false, if_true, queryCacheForService, hin, addPendings,
        markResolved, hr, List.filter_nil]
  | stopBrowse ty =>
    simp only [execCommand, execStopBrowse]
    split
    · exact ⟨ha, hv, hr⟩
    · refine ⟨fun q hq => ?_, hv, by simp [hr]⟩
      obtain ⟨hq1, hq2⟩ := List.mem_filter.mp hq
      exact List.mem_filter.mpr ⟨ha q hq1, hq2⟩
  | resolveHost h0 ch t => cases hc
  | stopResolve h0 =>
    simp only [execCommand, execStopResolve, hv, List.find?_nil]
    exact ⟨ha, hv, hr⟩
  | ipInterval ms => exact ⟨ha, hv, hr⟩
  | verify inst t => cases hc
  | metrics ch => exact ⟨ha, hv, hr⟩
  | acceptUnsolicited on => exact ⟨ha, hv, hr⟩

theorem cacheOnlyDaemon_runCommands (now : Nat) (l : List Command) (s : State) (hc : l.all quietCommand = true)
    (h : CacheOnlyDaemon s) : CacheOnlyDaemon (runCommands s now l).1 :=
  runCommands_induct (ok := fun c => quietCommand c = true) now (fun s c => cacheOnlyDaemon_execCommand s now c) l s
    (List.all_eq_true.mp hc) h

theorem cacheOnlyDaemon_preCommands (s : State) (now : Nat) (pkts : List Packet) (h : CacheOnlyDaemon s) :
    CacheOnlyDaemon (preCommands s now pkts) := by
  obtain ⟨ha, hv, hr⟩ := h
  refine ⟨ha.of_eq (preCommands_queriers s now pkts) (preCommands_cacheOnly s now pkts), ?_, ?_⟩
  · exact List.eq_nil_iff_forall_not_mem.mpr fun q hq => nomatch hv ▸ preCommands_resolvers_sub s now pkts q hq
  · exact (ingress_co_reruns now pkts s ha).trans hr

theorem no_query_of_cacheOnlyDaemon (x : State) (cmds : List Command) (qs : List (BList × Nat)) (known : List Record)
    (ha : AllCacheOnly x) (hv : x.resolvers = []) (hc : cmds.all quietCommand = true) :
    ¬ Origin x cmds [] (.query qs known) := by
  have hcmd : ∀ c ∈ cmds, quietCommand c = true := fun c hm => List.all_eq_true.mp hc c hm
  have hnb : ¬ Browsing x cmds := by
    rintro (⟨q, hq, hqa⟩ | ⟨ty, ch, hm⟩)
    · exact hqa (ha q hq)
    · simpa [quietCommand] using hcmd _ hm
  have hopen : ∀ key, ¬ HostOpen x cmds key := by
    rintro key (⟨q, hq, _⟩ | ⟨h, ch, t, hm, _⟩)
    · rw [hv] at hq
      cases hq
    · simpa [quietCommand] using hcmd _ hm
  intro h
  generalize ho : Out.query qs known = o at h
  cases h with
  | ptrQuerier q known' h1 h1a => exact h1a (ha q h1)
  | ptrRerun ty ch known' h1 => cases h1
  | ptrCommand ty ch known' h1 => simpa [quietCommand] using hcmd _ h1
  | hostRerun h0 ch known' h1 h2 => cases h1
  | hostCommand h0 ch t known' h1 => simpa [quietCommand] using hcmd _ h1
  | hostFollowup h0 known' h1 => cases h1
  | hostOfService h0 known' h1 => exact hnb h1
  | addrRefresh key t known' h1 h2 => exact hopen key h1
  | anyFollowup inst known' h1 => cases h1
  | srvTxtRefresh inst ts known' h1 h2 => exact hnb h1
  | verifyQuery inst qs' known' h1 =>
    rcases h1 with h1 | ⟨t, h1⟩
    · cases h1
    · simpa [quietCommand] using hcmd _ h1
  | evQuerier => cases ho
  | evResolver => cases ho
  | evRerunB => cases ho
  | evRerunH => cases ho
  | evCommand => cases ho

/-- **a cache-only daemon stays one through an iteration with quiet commands, and sends no
    query at all in it** -/
theorem cacheOnlyDaemon_iter (s : State) (now : Nat) (pkts : List Packet) (cmds : List Command)
    (h : CacheOnlyDaemon s) (hc : cmds.all quietCommand = true) :
    (∀ qs known, Out.query qs known ∉ (Client.iter s now pkts cmds).2) ∧ CacheOnlyDaemon (Client.iter s now pkts cmds).1 := by
  obtain ⟨ha, hv, hr⟩ := cacheOnlyDaemon_runCommands now cmds _ hc (cacheOnlyDaemon_preCommands s now pkts h)
  have hmid : midClasses (preCommands s now pkts) now cmds = [] := by
    simp only [midClasses, hr, List.map_nil]
  refine ⟨fun qs known hm => ?_, ?_⟩
  · have ho := origin_iter s now pkts cmds _ hm
    rw [hmid] at ho
    exact no_query_of_cacheOnlyDaemon s cmds qs known h.1 h.2.1 hc ho
  · have hs := same_tail (preCommands s now pkts) now cmds
    rw [(iter_tail s now pkts cmds).1]
    refine ⟨ha.of_eq hs.queriers hs.cacheOnly, hs.resolvers.trans hv, ?_⟩
    -- nothing was queued, so the re-run phase leaves nothing queued
    rw [tail_co_reruns _ now cmds ha]
    exact List.eq_nil_iff_forall_not_mem.mpr fun r hr' => by
      have := (origin_rerunPhase _ now).1 r hr'
      rw [hr] at this
      exact nomatch this

end Mdns.Client
