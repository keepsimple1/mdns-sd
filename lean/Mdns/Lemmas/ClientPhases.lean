import Mdns.Model.Client
/-
  The phases of one iteration of the client model (`Client.iter`) seen from outside: what a
  phase leaves of the state, the induction principles of its loops, and the iteration as the
  composition of its phases through named intermediate states (`iter_eq`).  Later files
  rewrite with these equations: `rfl` / `show` through `iter` makes Lean unfold all nine phases.
-/
namespace Mdns.Client
open Mdns Mdns.Rec Mdns.Cache

/-- `s'` has the searches (`browse`, `browse_cache`, `resolve_hostname`) and the settings of `s` -/
structure SameSearches (s s' : State) : Prop where
  queriers : s'.queriers = s.queriers
  cacheOnly : s'.cacheOnly = s.cacheOnly
  resolvers : s'.resolvers = s.resolvers
  intfs : s'.intfs = s.intfs
  ipInterval : s'.ipInterval = s.ipInterval
  acceptUnsolicited : s'.acceptUnsolicited = s.acceptUnsolicited

theorem SameSearches.rfl {s : State} : SameSearches s s := ⟨_root_.rfl, _root_.rfl, _root_.rfl, _root_.rfl, _root_.rfl, _root_.rfl⟩

theorem SameSearches.trans {a b c : State} (h1 : SameSearches a b) (h2 : SameSearches b c) : SameSearches a c :=
  ⟨h2.queriers.trans h1.queriers, h2.cacheOnly.trans h1.cacheOnly, h2.resolvers.trans h1.resolvers,
   h2.intfs.trans h1.intfs, h2.ipInterval.trans h1.ipInterval, h2.acceptUnsolicited.trans h1.acceptUnsolicited⟩

theorem same_markResolved (s : State) (l : List BList) : SameSearches s (markResolved s l) := ⟨rfl, rfl, rfl, rfl, rfl, rfl⟩
theorem same_popTimers (s : State) (now : Nat) : SameSearches s (popTimers s now) := ⟨rfl, rfl, rfl, rfl, rfl, rfl⟩

theorem same_addPending (s : State) (now : Nat) (i : BList) : SameSearches s (addPending s now i) := by
  unfold addPending
  split
  · exact ⟨rfl, rfl, rfl, rfl, rfl, rfl⟩
  · exact ⟨rfl, rfl, rfl, rfl, rfl, rfl⟩

theorem same_addPendings (now : Nat) : ∀ (l : List BList) (s : State), SameSearches s (addPendings s now l)
  | [], _ => ⟨rfl, rfl, rfl, rfl, rfl, rfl⟩
  | i :: rest, s => (same_addPending s now i).trans (same_addPendings now rest _)

theorem same_resolveUpdated (s : State) (now : Nat) (u : List BList) : SameSearches s (resolveUpdated s now u).1 := by
  unfold resolveUpdated
  split
  · exact ⟨rfl, rfl, rfl, rfl, rfl, rfl⟩
  · refine SameSearches.trans ?_ (same_addPendings now _ _)
    exact ⟨rfl, rfl, rfl, rfl, rfl, rfl⟩

theorem same_queryCacheForService (s : State) (now : Nat) (ty : BList) (ch : Nat) :
    SameSearches s (queryCacheForService s now ty ch).1 :=
  (same_markResolved s _).trans (same_addPendings now _ _)

theorem same_handleResponse (s : State) (now : Nat) (intf : Intf) (m : Wire.Msg) :
    SameSearches s (handleResponse s now intf m).1 :=
  SameSearches.trans (b := addTimers { s with cache := _ } _) ⟨rfl, rfl, rfl, rfl, rfl, rfl⟩ (same_resolveUpdated _ now _)

theorem handleRead_cases (s : State) (now : Nat) (p : Packet) :
    handleRead s now p = (s, []) ∨ ∃ intf, handleRead s now p = handleResponse s now intf p.msg := by
  unfold handleRead
  split
  · exact Or.inl rfl
  · split
    · exact Or.inl rfl
    · split
      · exact Or.inr ⟨_, rfl⟩
      · exact Or.inl rfl

theorem same_handleRead (s : State) (now : Nat) (p : Packet) : SameSearches s (handleRead s now p).1 := by
  rcases handleRead_cases s now p with h | ⟨intf, h⟩ <;> rw [h]
  · exact .rfl
  · exact same_handleResponse s now intf p.msg

theorem same_ingress (now : Nat) : ∀ (pkts : List Packet) (s : State), SameSearches s (ingress s now pkts).1
  | [], _ => ⟨rfl, rfl, rfl, rfl, rfl, rfl⟩
  | p :: rest, s => (same_handleRead s now p).trans (same_ingress now rest _)

theorem execResolveHost_rep (s : State) (now : Nat) (host : BList) (d ch : Nat) (t : Option Nat) :
    execResolveHost s now true host d ch t =
      if !(s.resolvers.any (·.1 == lower host)) then (s, [])
      else
        (if withinDeadline s (lower host) (now + d * 1000) then
           addRerun s (now + d * 1000) (.resolveHost host (Sched.nextDelay d) ch) else s,
         [.event ch .hstarted, sendQuery s.cache now [(host, 1), (host, 28)]]) := rfl

theorem execResolveHost_new (s : State) (now : Nat) (host : BList) (d ch : Nat) (t : Option Nat) :
    execResolveHost s now false host d ch t =
      ((fun s1 : State => if withinDeadline s1 (lower host) (now + d * 1000) then
           addRerun s1 (now + d * 1000) (.resolveHost host (Sched.nextDelay d) ch) else s1)
        { s with reruns := s.reruns.filter (fun r => !isResolveOf (lower host) r),
                 resolvers := (lower host, ch, t.map (now + ·)) :: s.resolvers.filter (fun q => q.1 != lower host),
                 timers := (match t.map (now + ·) with | some t => [t] | none => []) ++ s.timers },
       [.event ch .hstarted] ++ ((addressesForHost s.cache now host).map fun p => .event ch (.hfound p.1 p.2)) ++
         [sendQuery s.cache now [(host, 1), (host, 28)]]) := rfl

theorem serviceVerifyQueries_none (c : Cache) (inst : BList) : (serviceVerifyQueries c inst none).1 = c := by
  unfold serviceVerifyQueries
  split <;> rfl

/-- a re-run writes the queue and the timers, nothing else -/
theorem execRerun_fst (s : State) (now : Nat) (c : RCmd) :
    ∃ rs ts, (execRerun s now c).1 = { s with reruns := rs, timers := ts } := by
  cases c with
  | browse ty d ch => exact ⟨_, _, rfl⟩
  | resolveHost h d ch =>
    rw [execRerun, execResolveHost_rep]
    split
    · exact ⟨_, _, rfl⟩
    · split
      · exact ⟨_, _, rfl⟩
      · exact ⟨_, _, rfl⟩
  | resolve inst k =>
    simp only [execRerun, execResolveInst]
    split
    · exact ⟨_, _, rfl⟩
    · simp only []
      split
      · exact ⟨_, _, rfl⟩
      · exact ⟨_, _, rfl⟩
  | verify inst t =>
    simp only [execRerun, execVerify, if_true, serviceVerifyQueries_none]
    split
    · exact ⟨_, _, rfl⟩
    · exact ⟨_, _, rfl⟩

theorem same_execRerun (s : State) (now : Nat) (c : RCmd) : SameSearches s (execRerun s now c).1 := by
  obtain ⟨rs, ts, h⟩ := execRerun_fst s now c
  rw [h]
  exact ⟨rfl, rfl, rfl, rfl, rfl, rfl⟩

theorem mem_reruns_ite_addRerun {c : Prop} [Decidable c] {s : State} {n : Nat} {cmd : RCmd} {r : Rerun}
    (h : r ∈ (if c then addRerun s n cmd else s).reruns) : r ∈ s.reruns ∨ r = ⟨n, cmd⟩ := by
  split at h
  · simpa [addRerun] using h
  · exact Or.inl h

theorem same_setReruns (s : State) (l : List Rerun) : SameSearches s { s with reruns := l } := ⟨rfl, rfl, rfl, rfl, rfl, rfl⟩

/-- An invariant of the state - seen with its whole queue, which the loop holds in `keep` and
    `rest` - and a property of every output, through the re-run loop: a due re-run is taken out of
    the queue and executed on the empty queue, and what it queues goes to the end. -/
theorem runReruns_induct {P : State → Prop} {Q : Out → Prop} (now : Nat)
    (h : ∀ (s : State) (keep rest : List Rerun) (r : Rerun), s.reruns = keep ++ r :: rest → now ≥ r.next → P s →
      P { (execRerun { s with reruns := [] } now r.cmd).1 with
          reruns := keep ++ (rest ++ (execRerun { s with reruns := [] } now r.cmd).1.reruns) } ∧
      ∀ o ∈ (execRerun { s with reruns := [] } now r.cmd).2, Q o) :
    ∀ (fuel : Nat) (keep rest : List Rerun) (st : State), st.reruns = [] → P { st with reruns := keep ++ rest } →
      P (runReruns st now fuel keep rest).1 ∧ ∀ o ∈ (runReruns st now fuel keep rest).2, Q o
  | 0, keep, rest, st, hs, hp => by
    simp only [runReruns, hs, List.append_nil]
    exact ⟨hp, fun _ ho => nomatch ho⟩
  | _ + 1, keep, [], st, hs, hp => by
    simp only [runReruns, hs, List.append_nil] at hp ⊢
    exact ⟨hp, fun _ ho => nomatch ho⟩
  | fuel + 1, keep, r :: rest, st, hs, hp => by
    unfold runReruns
    split
    · rename_i hdue
      obtain ⟨h1, q1⟩ := h { st with reruns := keep ++ r :: rest } keep rest r rfl hdue hp
      obtain ⟨h2, q2⟩ := runReruns_induct now h fuel keep (rest ++ (execRerun { st with reruns := [] } now r.cmd).1.reruns)
        { (execRerun { st with reruns := [] } now r.cmd).1 with reruns := [] } rfl h1
      exact ⟨h2, fun o ho => (List.mem_append.mp ho).elim (q1 o) (q2 o)⟩
    · exact runReruns_induct now h fuel (keep ++ [r]) rest st hs (by simpa using hp)

theorem rerunPhase_induct {P : State → Prop} {Q : Out → Prop} (now : Nat)
    (h : ∀ (s : State) (keep rest : List Rerun) (r : Rerun), s.reruns = keep ++ r :: rest → now ≥ r.next → P s →
      P { (execRerun { s with reruns := [] } now r.cmd).1 with
          reruns := keep ++ (rest ++ (execRerun { s with reruns := [] } now r.cmd).1.reruns) } ∧
      ∀ o ∈ (execRerun { s with reruns := [] } now r.cmd).2, Q o) (s : State) (hp : P s) :
    P (rerunPhase s now).1 ∧ ∀ o ∈ (rerunPhase s now).2, Q o :=
  runReruns_induct now h _ [] s.reruns { s with reruns := [] } rfl hp

theorem rerunPhase_fst (s : State) (now : Nat) :
    ∃ rs ts, (rerunPhase s now).1 = { s with reruns := rs, timers := ts } :=
  (rerunPhase_induct (P := fun s' => ∃ rs ts, s' = { s with reruns := rs, timers := ts }) (Q := fun _ => True) now
    (fun s' _ _ r _ _ ⟨_, _, h⟩ => by
      obtain ⟨_, _, h1⟩ := execRerun_fst { s' with reruns := [] } now r.cmd
      rw [h1, h]
      exact ⟨⟨_, _, rfl⟩, fun _ _ => trivial⟩) s ⟨_, _, rfl⟩).1

theorem same_rerunPhase (s : State) (now : Nat) : SameSearches s (rerunPhase s now).1 := by
  obtain ⟨rs, ts, h⟩ := rerunPhase_fst s now
  rw [h]
  exact ⟨rfl, rfl, rfl, rfl, rfl, rfl⟩

@[simp] theorem rerunPhase_cache (s : State) (now : Nat) : (rerunPhase s now).1.cache = s.cache := by
  obtain ⟨rs, ts, h⟩ := rerunPhase_fst s now
  rw [h]

theorem same_refreshActive (s : State) (now : Nat) : SameSearches s (refreshActive s now).1 := ⟨rfl, rfl, rfl, rfl, rfl, rfl⟩
theorem same_refreshResolvers (s : State) (now : Nat) : SameSearches s (refreshResolvers s now).1 := ⟨rfl, rfl, rfl, rfl, rfl, rfl⟩
theorem same_evictServicesPhase (s : State) (now : Nat) : SameSearches s (evictServicesPhase s now).1 := ⟨rfl, rfl, rfl, rfl, rfl, rfl⟩

theorem same_evictAddrHosts (now : Nat) (items : List (BList × BList × BList × Nat)) :
    ∀ (hosts : List BList) (s : State), SameSearches s (evictAddrHosts s now items hosts).1
  | [], _ => ⟨rfl, rfl, rfl, rfl, rfl, rfl⟩
  | _ :: rest, s => (same_resolveUpdated s now _).trans (same_evictAddrHosts now items rest _)

theorem same_evictAddrPhase (s : State) (now : Nat) : SameSearches s (evictAddrPhase s now).1 := by
  refine SameSearches.trans ?_ (same_evictAddrHosts now _ _ _)
  exact ⟨rfl, rfl, rfl, rfl, rfl, rfl⟩

theorem runIpCheck_cases (s : State) (now : Nat) :
    (runIpCheck s now = s ∧ (now < s.nextIpCheck ∨ s.nextIpCheck = 0)) ∨
    (runIpCheck s now = { s with nextIpCheck := now + s.ipInterval, timers := (now + s.ipInterval) :: s.timers } ∧
      s.ipInterval > 0 ∧ s.nextIpCheck ≤ now) ∨
    (runIpCheck s now = { s with nextIpCheck := 0 } ∧ s.nextIpCheck ≤ now) := by
  unfold runIpCheck
  split
  · rename_i h1
    simp only [Bool.and_eq_true, decide_eq_true_eq] at h1
    split
    · rename_i h2
      exact Or.inr (Or.inl ⟨rfl, h2, h1.1⟩)
    · exact Or.inr (Or.inr ⟨rfl, h1.1⟩)
  · rename_i h1
    split
    · rename_i h2
      simp only [Bool.and_eq_true, beq_iff_eq, decide_eq_true_eq] at h2
      exact Or.inr (Or.inl ⟨rfl, h2.2, by omega⟩)
    · rename_i h2
      refine Or.inl ⟨rfl, ?_⟩
      simp only [Bool.and_eq_true, decide_eq_true_eq, not_and, Nat.not_lt, Nat.le_zero_eq] at h1
      by_cases h : now < s.nextIpCheck
      · exact Or.inl h
      · exact Or.inr (h1 (by omega))

theorem same_runIpCheck (s : State) (now : Nat) : SameSearches s (runIpCheck s now) := by
  rcases runIpCheck_cases s now with ⟨he, _⟩ | ⟨he, _⟩ | ⟨he, _⟩
  all_goals rw [he]; exact ⟨rfl, rfl, rfl, rfl, rfl, rfl⟩

theorem runTimeouts_fst (s : State) (now : Nat) :
    (runTimeouts s now).1 =
      { s with resolvers := s.resolvers.filter fun r => match r.2.2 with | some t => !decide (now ≥ t) | none => true } := rfl

theorem runTimeouts_snd (s : State) (now : Nat) :
    (runTimeouts s now).2 =
      (s.resolvers.filter fun r => match r.2.2 with | some t => decide (now ≥ t) | none => false).flatMap
        fun r => [.event r.2.1 (.htimeout r.1), .event r.2.1 (.hstopped r.1)] := rfl

theorem refreshActive_fst (s : State) (now : Nat) :
    (refreshActive s now).1 =
      addTimers { s with cache := (refreshTypes s.cache now (activeTypes s)).1 }
        (refreshTypes s.cache now (activeTypes s)).2.2.eraseDups := rfl

theorem refreshActive_snd (s : State) (now : Nat) :
    (refreshActive s now).2 = (refreshTypes s.cache now (activeTypes s)).2.1 := rfl

theorem refreshResolvers_fst (s : State) (now : Nat) :
    (refreshResolvers s now).1 = { s with cache := (refreshResolversGo s.cache now (s.resolvers.map (·.1))).1 } := rfl

theorem refreshResolvers_snd (s : State) (now : Nat) :
    (refreshResolvers s now).2 = (refreshResolversGo s.cache now (s.resolvers.map (·.1))).2 := rfl

theorem evictServicesPhase_fst (s : State) (now : Nat) :
    (evictServicesPhase s now).1 = { s with cache := (evictServices s.cache now).1 } := rfl

theorem evictServicesPhase_snd (s : State) (now : Nat) :
    (evictServicesPhase s now).2 = notifyRemoval s.queriers (evictServices s.cache now).2 := rfl

@[simp] theorem addRerun_resolvers (s : State) (n : Nat) (c : RCmd) : (addRerun s n c).resolvers = s.resolvers := rfl
@[simp] theorem addRerun_queriers (s : State) (n : Nat) (c : RCmd) : (addRerun s n c).queriers = s.queriers := rfl
@[simp] theorem addTimers_resolvers (s : State) (ts : List Nat) : (addTimers s ts).resolvers = s.resolvers := rfl
@[simp] theorem addTimers_queriers (s : State) (ts : List Nat) : (addTimers s ts).queriers = s.queriers := rfl
@[simp] theorem markResolved_resolvers (s : State) (l : List BList) : (markResolved s l).resolvers = s.resolvers := rfl
@[simp] theorem markResolved_queriers (s : State) (l : List BList) : (markResolved s l).queriers = s.queriers := rfl
@[simp] theorem addRerun_cacheOnly (s : State) (n : Nat) (c : RCmd) : (addRerun s n c).cacheOnly = s.cacheOnly := rfl
@[simp] theorem addTimers_cacheOnly (s : State) (ts : List Nat) : (addTimers s ts).cacheOnly = s.cacheOnly := rfl
@[simp] theorem markResolved_cacheOnly (s : State) (l : List BList) : (markResolved s l).cacheOnly = s.cacheOnly := rfl
@[simp] theorem addRerun_cache (s : State) (n : Nat) (c : RCmd) : (addRerun s n c).cache = s.cache := rfl
@[simp] theorem addTimers_cache (s : State) (ts : List Nat) : (addTimers s ts).cache = s.cache := rfl
@[simp] theorem markResolved_cache (s : State) (l : List BList) : (markResolved s l).cache = s.cache := rfl
@[simp] theorem popTimers_cache (s : State) (now : Nat) : (popTimers s now).cache = s.cache := rfl
@[simp] theorem runTimeouts_cache (s : State) (now : Nat) : (runTimeouts s now).1.cache = s.cache := rfl

@[simp] theorem runIpCheck_cache (s : State) (now : Nat) : (runIpCheck s now).cache = s.cache := by
  rcases runIpCheck_cases s now with ⟨he, _⟩ | ⟨he, _⟩ | ⟨he, _⟩
  all_goals rw [he]

@[simp] theorem runTimeouts_reruns (s : State) (now : Nat) : (runTimeouts s now).1.reruns = s.reruns := rfl
@[simp] theorem refreshActive_reruns (s : State) (now : Nat) : (refreshActive s now).1.reruns = s.reruns := rfl
@[simp] theorem refreshResolvers_reruns (s : State) (now : Nat) : (refreshResolvers s now).1.reruns = s.reruns := rfl
@[simp] theorem evictServicesPhase_reruns (s : State) (now : Nat) : (evictServicesPhase s now).1.reruns = s.reruns := rfl

@[simp] theorem runIpCheck_reruns (s : State) (now : Nat) : (runIpCheck s now).reruns = s.reruns := by
  rcases runIpCheck_cases s now with ⟨he, _⟩ | ⟨he, _⟩ | ⟨he, _⟩
  all_goals rw [he]

@[simp] theorem runTimeouts_timers (s : State) (now : Nat) : (runTimeouts s now).1.timers = s.timers := rfl

theorem runCommands_induct_outs {P : State → Prop} {Q : Out → Prop} {ok : Command → Prop} (now : Nat)
    (h : ∀ s c, ok c → P s → P (execCommand s now c).1 ∧ ∀ o ∈ (execCommand s now c).2, Q o) :
    ∀ (l : List Command) (s : State), (∀ c ∈ l, ok c) → P s →
      P (runCommands s now l).1 ∧ ∀ o ∈ (runCommands s now l).2, Q o
  | [], _, _, hp => ⟨hp, fun _ ho => nomatch ho⟩
  | c :: cs, s, hl, hp => by
    obtain ⟨h1, q1⟩ := h s c (hl c List.mem_cons_self) hp
    obtain ⟨h2, q2⟩ := runCommands_induct_outs now h cs _ (fun c' hc' => hl c' (List.mem_cons_of_mem _ hc')) h1
    exact ⟨h2, fun o ho => (List.mem_append.mp ho).elim (q1 o) (q2 o)⟩

theorem runCommands_induct {P : State → Prop} {ok : Command → Prop} (now : Nat)
    (h : ∀ s c, ok c → P s → P (execCommand s now c).1) (l : List Command) (s : State) (hl : ∀ c ∈ l, ok c) (hp : P s) :
    P (runCommands s now l).1 :=
  (runCommands_induct_outs (Q := fun _ => True) now (fun s c hc hp => ⟨h s c hc hp, fun _ _ => trivial⟩) l s hl hp).1

/-- the state after the ingress phase and `pop_timers_till(now)` -/
def afterPop (s : State) (now : Nat) (pkts : List Packet) : State := popTimers (ingress s now pkts).1 now

/-- the state in which the commands of an iteration are executed -/
def preCommands (s : State) (now : Nat) (pkts : List Packet) : State :=
  (runTimeouts (popTimers (ingress s now pkts).1 now) now).1

/-- the re-run phase and the two refresh phases, from the state `y` the commands leave -/
def refreshPhases (y : State) (now : Nat) : State × List Out :=
  ((refreshResolvers (refreshActive (rerunPhase y now).1 now).1 now).1,
   (rerunPhase y now).2 ++ (refreshActive (rerunPhase y now).1 now).2 ++
     (refreshResolvers (refreshActive (rerunPhase y now).1 now).1 now).2)

def evictPhases (z : State) (now : Nat) : State × List Out :=
  ((evictAddrPhase (evictServicesPhase z now).1 now).1,
   (evictServicesPhase z now).2 ++ (evictAddrPhase (evictServicesPhase z now).1 now).2)

/-- the state before the eviction phases of an iteration -/
def preEvict (s : State) (now : Nat) (pkts : List Packet) (cmds : List Command) : State :=
  (refreshResolvers (refreshActive (rerunPhase (runCommands (preCommands s now pkts) now cmds).1 now).1 now).1 now).1

/-- the state before the interface-check block at the end of the iteration -/
def preIp (s : State) (now : Nat) (pkts : List Packet) (cmds : List Command) : State :=
  (evictAddrPhase (evictServicesPhase (preEvict s now pkts cmds) now).1 now).1

theorem preCommands_eq (s : State) (now : Nat) (pkts : List Packet) :
    preCommands s now pkts = (runTimeouts (afterPop s now pkts) now).1 := rfl

theorem preEvict_eq (s : State) (now : Nat) (pkts : List Packet) (cmds : List Command) :
    preEvict s now pkts cmds = (refreshPhases (runCommands (preCommands s now pkts) now cmds).1 now).1 := by
  simp only [preEvict, refreshPhases]

theorem preIp_eq (s : State) (now : Nat) (pkts : List Packet) (cmds : List Command) :
    preIp s now pkts cmds = (evictPhases (preEvict s now pkts cmds) now).1 := by
  simp only [preIp, evictPhases]

theorem iter_eq (s : State) (now : Nat) (pkts : List Packet) (cmds : List Command) :
    iter s now pkts cmds =
      (runIpCheck (preIp s now pkts cmds) now,
       (ingress s now pkts).2 ++ (runTimeouts (afterPop s now pkts) now).2 ++
       (runCommands (preCommands s now pkts) now cmds).2 ++
       (refreshPhases (runCommands (preCommands s now pkts) now cmds).1 now).2 ++
       (evictPhases (preEvict s now pkts cmds) now).2) := by
  simp only [iter, preIp, preEvict, preCommands, afterPop, refreshPhases, evictPhases, List.append_assoc]

theorem iter_fst (s : State) (now : Nat) (pkts : List Packet) (cmds : List Command) :
    (iter s now pkts cmds).1 = runIpCheck (preIp s now pkts cmds) now := by
  rw [iter_eq]

theorem same_refreshPhases (y : State) (now : Nat) : SameSearches y (refreshPhases y now).1 :=
  (same_rerunPhase y now).trans ((same_refreshActive _ now).trans (same_refreshResolvers _ now))

theorem same_evictPhases (z : State) (now : Nat) : SameSearches z (evictPhases z now).1 :=
  (same_evictServicesPhase z now).trans (same_evictAddrPhase _ now)

theorem same_afterPop (s : State) (now : Nat) (pkts : List Packet) : SameSearches s (afterPop s now pkts) :=
  (same_ingress now pkts s).trans (same_popTimers _ now)

theorem preCommands_resolvers (s : State) (now : Nat) (pkts : List Packet) :
    (preCommands s now pkts).resolvers =
      s.resolvers.filter fun r => match r.2.2 with | some t => !decide (now ≥ t) | none => true := by
  rw [preCommands_eq, runTimeouts_fst, (same_afterPop s now pkts).resolvers]

/-- after the commands no phase touches the searches: those of the iteration's result are those `runCommands` leaves
    (not those of `s`: time-outs and commands change them) -/
theorem same_iter (s : State) (now : Nat) (pkts : List Packet) (cmds : List Command) :
    SameSearches (runCommands (preCommands s now pkts) now cmds).1 (iter s now pkts cmds).1 := by
  rw [iter_fst, preIp_eq, preEvict_eq]
  exact (same_refreshPhases _ now).trans ((same_evictPhases _ now).trans (same_runIpCheck _ now))

end Mdns.Client
