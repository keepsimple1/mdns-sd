import Mdns.Lemmas.ResponderSteps
/-
  `handle_query` and the declarative rule it equals: per question and per announced service the
  records owed (`specAnswers`, `specAdditionals`), the loop as additions to the response
  (`Resp.plus`), the constants and link-locality of every record of the rule (`RecordOk`), the
  one packet a query is answered with, and silence where nothing is announced.
-/
namespace Mdns.Responder
open Mdns

/-! ### the answer of `handle_query`, declaratively -/

/-- is the record kept, i.e. not suppressed by a known answer of the query? -/
def kept (known : List Wire.Rec) (a : RR) : Bool := !suppressedBy a known

/-- the PTR answer a service owes to a PTR question: its type / subtype PTR, or the
    meta-query PTR, if the service is announced on the interface -/
def ptrRule (i : MyIntf) (reg : Registry) (v4 : Bool) (qname : BList) (svc : Service) : List RR :=
  if !svc.announcedOn i.index then []
  else if svc.matchesType qname then
    (if addrsOn svc i v4 = [] then []
     else [{ name := svc.ty, ty := TYPE_PTR, flush := false, ttl := TTL_OTHER, rdata := .ptr (reg.resolveName svc.fullname) }])
  else if qname = META_QUERY then
    [{ name := qname, ty := TYPE_PTR, flush := false, ttl := TTL_OTHER, rdata := .ptr svc.ty }]
  else []

/-- the additionals that come with a (not suppressed) type / subtype PTR answer: subtype PTR,
    SRV, TXT, the addresses of the querier's family inside the interface's subnet -/
def ptrAdditionals (known : List Wire.Rec) (i : MyIntf) (reg : Registry) (v4 : Bool) (qname : BList) (svc : Service) : List RR :=
  if svc.announcedOn i.index && svc.matchesType qname && !(addrsOn svc i v4).isEmpty &&
     kept known { name := svc.ty, ty := TYPE_PTR, flush := false, ttl := TTL_OTHER, rdata := .ptr (reg.resolveName svc.fullname) } then
    (match svc.sub with
     | some sub => [{ name := sub, ty := TYPE_PTR, flush := false, ttl := TTL_OTHER,
                      rdata := .ptr (reg.resolveName svc.fullname) : RR }]
     | none => []) ++
    [{ name := reg.resolveName svc.fullname, ty := TYPE_SRV, flush := true, ttl := TTL_HOST,
       rdata := .srv 0 0 svc.port (reg.resolveName svc.host) },
     { name := reg.resolveName svc.fullname, ty := TYPE_TXT, flush := true, ttl := TTL_OTHER, rdata := .txt svc.txt }] ++
    (addrsOn svc i v4).map fun ip =>
      { name := reg.resolveName svc.host, ty := addrType ip, flush := true, ttl := TTL_HOST, rdata := addrRData ip }
  else []

/-- the address answers a service owes to an A / AAAA / ANY question on its host name -/
def addrRule (i : MyIntf) (reg : Registry) (qname : BList) (qtype : Nat) (svc : Service) : List RR :=
  if !svc.announcedOn i.index then []
  else if lower (reg.resolveName svc.host) != lower qname then []
  else
    ((if qtype == TYPE_A || qtype == TYPE_ANY then addrsOn svc i true else []) ++
     (if qtype == TYPE_AAAA || qtype == TYPE_ANY then addrsOn svc i false else [])).map fun ip =>
      { name := reg.resolveName svc.host, ty := addrType ip, flush := true, ttl := TTL_HOST, rdata := addrRData ip }

/-- the service an instance-name question is about: the one whose CURRENT full name (the name as
    registered, resolved through the name changes) is the question's name, compared lower-cased -/
def instanceOf (services : List (BList × Service)) (i : MyIntf) (reg : Registry) (v4 : Bool) (qname : BList) : Option Service :=
  match services.find? (fun e => lower (reg.resolveName e.2.fullname) == lower qname) with
  | some (_, svc) => if svc.announcedOn i.index && !(addrsOn svc i v4).isEmpty then some svc else none
  | none => none

/-- SRV / TXT answers to SRV / TXT / ANY on the instance name, under the name as asked; the SRV
    target is the CURRENT host name of the service (resolved through the name changes) -/
def instRule (reg : Registry) (qname : BList) (qtype : Nat) : Option Service → List RR
  | none => []
  | some svc =>
    (if qtype == TYPE_SRV || qtype == TYPE_ANY then
      [{ name := qname, ty := TYPE_SRV, flush := true, ttl := TTL_HOST, rdata := .srv 0 0 svc.port (reg.resolveName svc.host) : RR }] else []) ++
    (if qtype == TYPE_TXT || qtype == TYPE_ANY then
      [{ name := qname, ty := TYPE_TXT, flush := true, ttl := TTL_OTHER, rdata := .txt svc.txt : RR }] else [])

/-- the address additionals of an SRV answer, under the current host name -/
def instAdditionals (reg : Registry) (i : MyIntf) (v4 : Bool) (qtype : Nat) : Option Service → List RR
  | none => []
  | some svc =>
    if qtype == TYPE_SRV then
      (addrsOn svc i v4).map fun ip =>
        { name := reg.resolveName svc.host, ty := addrType ip, flush := true, ttl := TTL_HOST, rdata := addrRData ip }
    else []

/-- the answers the statement asks for, for one question (before known-answer suppression) -/
def specAnswers (services : List (BList × Service)) (i : MyIntf) (reg : Registry) (v4 : Bool) (q : Wire.Question) : List RR :=
  if q.ty == TYPE_PTR then services.flatMap fun e => ptrRule i reg v4 q.name e.2
  else
    (if q.ty == TYPE_A || q.ty == TYPE_AAAA || q.ty == TYPE_ANY then services.flatMap fun e => addrRule i reg q.name q.ty e.2 else []) ++
    instRule reg q.name q.ty (instanceOf services i reg v4 q.name)

/-- the additionals for one question -/
def specAdditionals (known : List Wire.Rec) (services : List (BList × Service)) (i : MyIntf) (reg : Registry) (v4 : Bool)
    (q : Wire.Question) : List RR :=
  if q.ty == TYPE_PTR then services.flatMap fun e => ptrAdditionals known i reg v4 q.name e.2
  else instAdditionals reg i v4 q.ty (instanceOf services i reg v4 q.name)

/-- `r` with `an` added to the answers and `ad` to the additionals: every step of `handle_query`
    is of this form -/
def Resp.plus (r : Resp) (an ad : List RR) : Resp := { answers := r.answers ++ an, additionals := r.additionals ++ ad }

theorem Resp.plus_nil (r : Resp) : r.plus [] [] = r := by simp [Resp.plus]

theorem Resp.plus_plus (r : Resp) (a b c d : List RR) : (r.plus a b).plus c d = r.plus (a ++ c) (b ++ d) := by
  simp [Resp.plus]

theorem foldl_plus_filter {α} {f : Resp → α → Resp} {A B : α → List RR} {p : RR → Bool}
    (hf : ∀ r x, f r x = r.plus ((A x).filter p) (B x)) (l : List α) (r : Resp) :
    l.foldl f r = r.plus ((l.flatMap A).filter p) (l.flatMap B) := by
  induction l generalizing r with
  | nil => exact (Resp.plus_nil r).symm
  | cons x l ih => simp only [List.foldl_cons, hf, ih, Resp.plus_plus, List.flatMap_cons, List.filter_append]

theorem addAnswer_eq (r : Resp) (known : List Wire.Rec) (a : RR) :
    r.addAnswer known a = r.plus ([a].filter (kept known)) [] := by
  cases h : suppressedBy a known <;> simp [Resp.addAnswer, kept, Resp.plus, h]

theorem ite_addAnswer (c : Bool) (r : Resp) (known : List Wire.Rec) (a : RR) :
    (if c = true then r.addAnswer known a else r) = r.plus ((if c = true then [a] else []).filter (kept known)) [] := by
  cases c
  · exact (Resp.plus_nil r).symm
  · exact addAnswer_eq r known a

theorem foldl_addAnswer (known : List Wire.Rec) (l : List RR) (r : Resp) :
    l.foldl (fun r a => r.addAnswer known a) r = r.plus (l.filter (kept known)) [] := by
  induction l generalizing r with
  | nil => exact (Resp.plus_nil r).symm
  | cons a l ih =>
    rw [List.foldl_cons, ih, addAnswer_eq, Resp.plus_plus, List.append_nil, ← List.filter_append, List.singleton_append]

theorem answerPtr_eq (known : List Wire.Rec) (i : MyIntf) (reg : Registry) (v4 : Bool) (qname : BList) (r : Resp) (svc : Service) :
    answerPtr known i reg v4 qname r svc =
      r.plus ((ptrRule i reg v4 qname svc).filter (kept known)) (ptrAdditionals known i reg v4 qname svc) := by
  unfold answerPtr ptrRule ptrAdditionals
  by_cases ha : svc.announcedOn i.index = true
  · by_cases hm : svc.matchesType qname = true
    · simp only [ha, hm, Bool.not_true, Bool.false_eq_true, ↓reduceIte, Bool.true_and]
      unfold addAnswerWithAdditionals
      by_cases hne : addrsOn svc i v4 = []
      · simp [hne, Resp.plus_nil]
      · simp only [hne, ↓reduceIte]
        split
        · rename_i hs
          simp [hs, kept, Resp.plus_nil]
        · rename_i hs
          -- `simp` leaves the `match svc.sub` of the two sides, which differ in how the match is written only
          simp [hs, hne, kept, Resp.plus] <;> rfl
    · by_cases hq : qname = META_QUERY
      · subst hq
        simp [ha, hm, addAnswer_eq]
      · simp [ha, hm, hq, Resp.plus_nil]
  · simp [ha, Resp.plus_nil]

theorem answerAddr_eq (known : List Wire.Rec) (i : MyIntf) (reg : Registry) (qname : BList) (qtype : Nat) (r : Resp) (svc : Service) :
    answerAddr known i reg qname qtype r svc = r.plus ((addrRule i reg qname qtype svc).filter (kept known)) [] := by
  unfold answerAddr addrRule
  cases svc.announcedOn i.index
  · exact (Resp.plus_nil r).symm
  · cases lower (reg.resolveName svc.host) != lower qname
    · exact List.foldl_map.symm.trans (foldl_addAnswer known _ r)
    · exact (Resp.plus_nil r).symm

theorem addAnswerOfService_eq (known : List Wire.Rec) (reg : Registry) (i : MyIntf) (v4 : Bool) (qname : BList) (qtype : Nat)
    (svc : Service) (r : Resp) :
    addAnswerOfService known qname qtype svc (reg.resolveName svc.host) (addrsOn svc i v4) r =
      r.plus ((instRule reg qname qtype (some svc)).filter (kept known)) (instAdditionals reg i v4 qtype (some svc)) := by
  unfold addAnswerOfService instRule instAdditionals
  simp only [ite_addAnswer, Resp.plus_plus, ← List.filter_append, List.append_nil]
  cases qtype == TYPE_SRV
  · rfl
  · simp [Resp.plus]

theorem answerInstance_eq (known : List Wire.Rec) (services : List (BList × Service)) (i : MyIntf) (reg : Registry)
    (v4 : Bool) (qname : BList) (qtype : Nat) (r : Resp) :
    answerInstance known services i reg v4 qname qtype r =
      r.plus ((instRule reg qname qtype (instanceOf services i reg v4 qname)).filter (kept known))
        (instAdditionals reg i v4 qtype (instanceOf services i reg v4 qname)) := by
  unfold answerInstance instanceOf
  generalize List.find? _ services = o
  rcases o with _ | ⟨k, svc⟩
  · exact (Resp.plus_nil r).symm
  · by_cases ha : svc.announcedOn i.index = true
    · by_cases hne : addrsOn svc i v4 = []
      · simp [ha, hne, instRule, instAdditionals, Resp.plus_nil]
      · simp [ha, hne, addAnswerOfService_eq]
    · simp [ha, instRule, instAdditionals, Resp.plus_nil]

/-- `handle_query`'s loop body equals the declarative rule: the answers are the rule's records
    that no known answer suppresses, the additionals the rule's additionals -/
theorem answerQuestion_eq (known : List Wire.Rec) (services : List (BList × Service)) (i : MyIntf) (reg : Registry)
    (v4 : Bool) (r : Resp) (q : Wire.Question) :
    answerQuestion known services i reg v4 r q =
      r.plus ((specAnswers services i reg v4 q).filter (kept known)) (specAdditionals known services i reg v4 q) := by
  have hptr := foldl_plus_filter (fun r (e : BList × Service) => answerPtr_eq known i reg v4 q.name r e.2) services r
  have haddr := foldl_plus_filter (fun r (e : BList × Service) => answerAddr_eq known i reg q.name q.ty r e.2) services r
  unfold answerQuestion specAnswers specAdditionals
  split
  · exact hptr
  · rw [answerInstance_eq]
    split
    · rw [haddr, Resp.plus_plus, List.flatMap_eq_nil_iff.mpr (fun _ _ => rfl), List.nil_append, List.filter_append]
    · rw [List.nil_append]

theorem answerAll_spec (known : List Wire.Rec) (services : List (BList × Service)) (i : MyIntf) (reg : Registry)
    (v4 : Bool) (qs : List Wire.Question) (r : Resp) :
    (qs.foldl (answerQuestion known services i reg v4) r).answers =
      r.answers ++ (qs.flatMap (specAnswers services i reg v4)).filter (kept known) ∧
    (qs.foldl (answerQuestion known services i reg v4) r).additionals =
      r.additionals ++ qs.flatMap (specAdditionals known services i reg v4) := by
  rw [foldl_plus_filter (answerQuestion_eq known services i reg v4)]
  exact ⟨rfl, rfl⟩

/-! ### constants and link-locality of every response record -/

/-- TTL 4500 s and no cache-flush bit for PTR, TTL 4500 s with the bit for TXT, TTL 120 s with
    the bit for SRV and address records; an address record carries an address of the service
    that lies in the subnet of one of the receiving interface's addresses -/
def RecordOk (i : MyIntf) (a : RR) : Prop :=
  (a.ty = TYPE_PTR ∧ a.ttl = TTL_OTHER ∧ a.flush = false) ∨
  (a.ty = TYPE_TXT ∧ a.ttl = TTL_OTHER ∧ a.flush = true) ∨
  (a.ty = TYPE_SRV ∧ a.ttl = TTL_HOST ∧ a.flush = true) ∨
  (∃ ip, a.ty = addrType ip ∧ a.rdata = addrRData ip ∧ a.ttl = TTL_HOST ∧ a.flush = true ∧
     ∃ x ∈ i.addrs, Intf.validIpOnIntf ip x.1 x.2 = true)

theorem addrsOn_valid {svc : Service} {i : MyIntf} {v4 : Bool} {ip : Ip} (h : ip ∈ addrsOn svc i v4) :
    ip ∈ svc.addrs ∧ Intf.isV4 ip = v4 ∧ ∃ x ∈ i.addrs, Intf.validIpOnIntf ip x.1 x.2 = true := by
  obtain ⟨h1, h2⟩ := List.mem_filter.mp h
  obtain ⟨h3, h4⟩ := Bool.and_eq_true_iff.mp h2
  exact ⟨h1, beq_iff_eq.mp h3, List.any_eq_true.mp h4⟩

theorem addrRecord_ok (i : MyIntf) (svc : Service) (v4 : Bool) (name : BList) (ip : Ip) (h : ip ∈ addrsOn svc i v4) :
    RecordOk i { name := name, ty := addrType ip, flush := true, ttl := TTL_HOST, rdata := addrRData ip } :=
  Or.inr (Or.inr (Or.inr ⟨ip, rfl, rfl, rfl, rfl, (addrsOn_valid h).2.2⟩))

theorem mem_ite {α} {c : Prop} [Decidable c] {a : α} {l₁ l₂ : List α} (h : a ∈ if c then l₁ else l₂) : a ∈ l₁ ∨ a ∈ l₂ := by
  split at h
  · exact Or.inl h
  · exact Or.inr h

theorem ptrRule_ok {i : MyIntf} {reg : Registry} {v4 : Bool} {qname : BList} {svc : Service} {a : RR}
    (h : a ∈ ptrRule i reg v4 qname svc) : RecordOk i a := by
  -- every record of the rule is a PTR with TTL 4500 s and no cache-flush bit
  have ptr : ∀ {n : BList} {d : Wire.RData}, a ∈ [({ name := n, ty := TYPE_PTR, flush := false, ttl := TTL_OTHER, rdata := d } : RR)] →
      RecordOk i a := fun h => by cases List.mem_singleton.mp h; exact Or.inl ⟨rfl, rfl, rfl⟩
  rcases mem_ite h with h | h
  · cases h
  · rcases mem_ite h with h | h
    · exact (mem_ite h).elim nofun ptr
    · exact (mem_ite h).elim ptr nofun

theorem ptrAdditionals_ok {known : List Wire.Rec} {i : MyIntf} {reg : Registry} {v4 : Bool} {qname : BList} {svc : Service}
    {a : RR} (h : a ∈ ptrAdditionals known i reg v4 qname svc) : RecordOk i a := by
  rcases mem_ite h with h | h
  · rcases List.mem_append.mp h with h | h
    · rcases List.mem_append.mp h with h | h
      · cases hs : svc.sub with
        | none => rw [hs] at h; cases h
        | some sub =>
          rw [hs] at h
          cases List.mem_singleton.mp h
          exact Or.inl ⟨rfl, rfl, rfl⟩
      · rcases List.mem_cons.mp h with rfl | h
        · exact Or.inr (Or.inr (Or.inl ⟨rfl, rfl, rfl⟩))
        · cases List.mem_singleton.mp h
          exact Or.inr (Or.inl ⟨rfl, rfl, rfl⟩)
    · obtain ⟨ip, hip, rfl⟩ := List.mem_map.mp h
      exact addrRecord_ok i svc v4 _ ip hip
  · cases h

theorem addrRule_ok {i : MyIntf} {reg : Registry} {qname : BList} {qtype : Nat} {svc : Service} {a : RR}
    (h : a ∈ addrRule i reg qname qtype svc) : RecordOk i a := by
  rcases mem_ite h with h | h
  · cases h
  · rcases mem_ite h with h | h
    · cases h
    · obtain ⟨ip, hip, rfl⟩ := List.mem_map.mp h
      rcases List.mem_append.mp hip with hip | hip
      · exact (mem_ite hip).elim (addrRecord_ok i svc true _ ip) nofun
      · exact (mem_ite hip).elim (addrRecord_ok i svc false _ ip) nofun

theorem instRule_ok {i : MyIntf} {reg : Registry} {qname : BList} {qtype : Nat} {o : Option Service} {a : RR}
    (h : a ∈ instRule reg qname qtype o) : RecordOk i a := by
  cases o with
  | none => cases h
  | some svc =>
    rcases List.mem_append.mp h with h | h
    · rcases mem_ite h with h | h
      · cases List.mem_singleton.mp h
        exact Or.inr (Or.inr (Or.inl ⟨rfl, rfl, rfl⟩))
      · cases h
    · rcases mem_ite h with h | h
      · cases List.mem_singleton.mp h
        exact Or.inr (Or.inl ⟨rfl, rfl, rfl⟩)
      · cases h

theorem instAdditionals_ok {i : MyIntf} {reg : Registry} {v4 : Bool} {qtype : Nat} {o : Option Service} {a : RR}
    (h : a ∈ instAdditionals reg i v4 qtype o) : RecordOk i a := by
  cases o with
  | none => cases h
  | some svc =>
    rcases mem_ite h with h | h
    · obtain ⟨ip, hip, rfl⟩ := List.mem_map.mp h
      exact addrRecord_ok i svc v4 _ ip hip
    · cases h

theorem specAnswers_ok {services : List (BList × Service)} {i : MyIntf} {reg : Registry} {v4 : Bool} {q : Wire.Question}
    {a : RR} (h : a ∈ specAnswers services i reg v4 q) : RecordOk i a := by
  rcases mem_ite h with h | h
  · obtain ⟨e, _, he⟩ := List.mem_flatMap.mp h
    exact ptrRule_ok he
  · rcases List.mem_append.mp h with h | h
    · rcases mem_ite h with h | h
      · obtain ⟨e, _, he⟩ := List.mem_flatMap.mp h
        exact addrRule_ok he
      · cases h
    · exact instRule_ok h

theorem specAdditionals_ok {known : List Wire.Rec} {services : List (BList × Service)} {i : MyIntf} {reg : Registry}
    {v4 : Bool} {q : Wire.Question} {a : RR} (h : a ∈ specAdditionals known services i reg v4 q) : RecordOk i a := by
  rcases mem_ite h with h | h
  · obtain ⟨e, _, he⟩ := List.mem_flatMap.mp h
    exact ptrAdditionals_ok he
  · exact instAdditionals_ok h

/-- the response of `handle_query` in terms of the declarative rule -/
def specResp (s : State) (p : RxPkt) (i : MyIntf) (reg : Registry) : Resp :=
  { answers := (p.msg.questions.flatMap (specAnswers s.services i reg p.srcV4)).filter (kept p.msg.answers),
    additionals := p.msg.questions.flatMap (specAdditionals p.msg.answers s.services i reg p.srcV4) }

theorem handleQuery_eq_spec (s : State) (now : Nat) (p : RxPkt) (i : MyIntf) (reg : Registry)
    (hreg : alookup p.ifIdx s.registries = some reg) :
    (handleQuery s now p i).2 =
      if (specResp s p i reg).answers.isEmpty then []
      else
        (if i.hasFamily p.srcV4 then
          [Out.send i.index p.srcV4 (if p.srcPort != MDNS_PORT then some p.src else none)
            (responsePkt p.msg (p.srcPort != MDNS_PORT) (specResp s p i reg))]
         else []) ++ notify s (.respond i.name) := by
  have hresp : p.msg.questions.foldl (answerQuestion p.msg.answers s.services i reg p.srcV4) {} = specResp s p i reg := by
    obtain ⟨h1, h2⟩ := answerAll_spec p.msg.answers s.services i reg p.srcV4 p.msg.questions {}
    show (⟨_, _⟩ : Resp) = _
    rw [h1, h2]
    simp only [specResp, List.nil_append]
  unfold handleQuery
  rw [hreg]
  simp only []
  rw [hresp]
  cases (specResp s p i reg).answers.isEmpty <;> rfl

/-- the one packet `handle_query` can send: the response to the querier's family on the receiving
    interface, unicast to a source port other than 5353 -/
theorem handleQuery_send {s : State} {now : Nat} {p : RxPkt} {i : MyIntf} {reg : Registry}
    (hreg : alookup p.ifIdx s.registries = some reg) {idx : Nat} {v4 : Bool} {dest : Option BList} {pkt : Packet}
    (h : Out.send idx v4 dest pkt ∈ (handleQuery s now p i).2) :
    idx = i.index ∧ v4 = p.srcV4 ∧ dest = (if p.srcPort != MDNS_PORT then some p.src else none) ∧
    pkt = responsePkt p.msg (p.srcPort != MDNS_PORT) (specResp s p i reg) := by
  revert h
  rw [handleQuery_eq_spec s now p i reg hreg]
  cases (specResp s p i reg).answers.isEmpty
  · cases i.hasFamily p.srcV4
    · intro h
      obtain ⟨_, _, h⟩ := List.mem_map.mp h
      cases h
    · intro h
      rcases List.mem_cons.mp h with h | h
      · cases h
        exact ⟨rfl, rfl, rfl, rfl⟩
      · obtain ⟨_, _, h⟩ := List.mem_map.mp h
        cases h
  · nofun

/-! ### a daemon that has announced nothing on an interface answers nothing there -/

theorem foldl_id {α β} (f : β → α → β) (l : List α) (b : β) (h : ∀ b a, a ∈ l → f b a = b) : l.foldl f b = b :=
  foldl_inv (· = b) f l b rfl (fun _ a ha hb => hb ▸ h b a ha)

theorem answerQuestion_silent (known : List Wire.Rec) (services : List (BList × Service)) (i : MyIntf) (reg : Registry)
    (v4 : Bool) (r : Resp) (q : Wire.Question) (h : ∀ e ∈ services, e.2.announcedOn i.index = false) :
    answerQuestion known services i reg v4 r q = r := by
  unfold answerQuestion
  have hptr : ∀ (qn : BList) (r : Resp), services.foldl (fun r e => answerPtr known i reg v4 qn r e.2) r = r :=
    fun qn r => foldl_id _ _ _ (fun b e he => by simp [answerPtr, h e he])
  have haddr : ∀ (qn : BList) (qt : Nat) (r : Resp), services.foldl (fun r e => answerAddr known i reg qn qt r e.2) r = r :=
    fun qn qt r => foldl_id _ _ _ (fun b e he => by simp [answerAddr, h e he])
  have hinst : ∀ (r : Resp), answerInstance known services i reg v4 q.name q.ty r = r := by
    intro r
    unfold answerInstance
    split
    · rfl
    · rename_i k svc hf
      have := h _ (List.mem_of_find?_eq_some hf)
      simp [this]
  split
  · exact hptr _ _
  · simp only []
    split
    · rw [haddr, hinst]
    · exact hinst r

theorem handleQuery_silent (s : State) (now : Nat) (p : RxPkt) (i : MyIntf)
    (h : ∀ e ∈ s.services, e.2.announcedOn i.index = false) : (handleQuery s now p i).2 = [] := by
  unfold handleQuery
  split
  · rfl
  · rename_i reg _
    have : p.msg.questions.foldl (answerQuestion p.msg.answers s.services i reg p.srcV4) {} = ({} : Resp) :=
      foldl_id (answerQuestion p.msg.answers s.services i reg p.srcV4) _ _
        (fun b q _ => answerQuestion_silent _ _ _ _ _ b q h)
    simp [this]

end Mdns.Responder
