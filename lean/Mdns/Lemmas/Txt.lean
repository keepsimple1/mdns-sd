import Mdns.Model.Txt
/-
  `decode_txt` as a function on lists (`decodeTxtAt_eq`), the round trip of accepted properties
  (`decodeTxtL_encL`), and first-key-wins de-duplication (`dedupGo`).
-/
namespace Mdns.Txt
open Mdns

theorem validUtf8_of_ascii : ∀ (s : BList), isAscii s = true → validUtf8 s = true
  | [], _ => rfl
  | b :: rest, h => by
    rw [isAscii, List.all_cons, Bool.and_eq_true] at h
    unfold validUtf8
    rw [if_pos (of_decide_eq_true h.1)]
    exact validUtf8_of_ascii rest h.2

theorem splitKV_recombine (kv : BList) :
    (splitKV kv).1 ++ (match (splitKV kv).2 with | none => [] | some v => 0x3D :: v) = kv := by
  unfold splitKV
  have h := List.takeWhile_append_dropWhile (p := (· != (0x3D : UInt8))) (l := kv)
  cases hd : kv.dropWhile (· != (0x3D : UInt8)) with
  | nil =>
    simp [hd] at h ⊢
    exact h
  | cons x v =>
    have hx : x = 0x3D := by
      have := List.head_dropWhile_not (p := (· != (0x3D : UInt8))) (l := kv) (by simp [hd])
      simp [hd] at this
      exact this
    subst hx
    simp only []
    rw [hd] at h
    exact h

theorem splitKV_str (p : TProp) (hk : p.key.contains 0x3D = false) :
    splitKV p.str = (p.key, p.val) := by
  have hall : ∀ x ∈ p.key, (x != (0x3D : UInt8)) = true := fun x hx => bne_iff_ne.mpr fun e =>
    Bool.false_ne_true (hk.symm.trans (List.contains_iff_mem.mpr (e ▸ hx)))
  unfold splitKV TProp.str
  rw [List.takeWhile_append_of_pos hall, List.dropWhile_append_of_pos hall]
  cases p.val with
  | none => simp only [List.takeWhile_nil, List.dropWhile_nil, List.append_nil]
  | some v =>
    rw [List.takeWhile_cons_of_neg (by decide), List.dropWhile_cons_of_neg (by decide), List.append_nil]

/-- `decodeTxtL` on a suffix of the input, in the index arithmetic of `decodeTxtAt` -/
theorem decodeTxtL_drop {txt : BList} {off : Nat} {len : UInt8} (h : txt[off]? = some len) :
    decodeTxtL (txt.drop off) =
      if len = 0 then [] else if off + 1 + len.toNat > txt.length then []
      else propOfKV ((txt.drop (off + 1)).take len.toNat) ++ decodeTxtL (txt.drop (off + 1 + len.toNat)) := by
  obtain ⟨hlt, rfl⟩ := List.getElem?_eq_some_iff.mp h
  rw [List.drop_eq_getElem_cons hlt, decodeTxtL, List.length_drop, List.drop_drop]
  have : txt[off].toNat > txt.length - (off + 1) ↔ off + 1 + txt[off].toNat > txt.length := by omega
  simp only [this]

theorem decodeTxtAt_eq (txt : BList) (off : Nat) :
    decodeTxtAt txt off = .ok (decodeTxtL (txt.drop off)) := by
  fun_induction decodeTxtAt txt off with
  | case1 off h hn => exact absurd hn (by rw [List.getElem?_eq_getElem h]; nofun)
  | case2 off h hs => rw [decodeTxtL_drop hs, if_pos rfl]
  | case3 off h len hs h0 hover => rw [decodeTxtL_drop hs, if_neg h0, if_pos hover]
  | case4 off h len hs h0 hover hle ps hps ih =>
    rw [decodeTxtL_drop hs, if_neg h0, if_neg hover]
    cases hps.symm.trans ih
    rfl
  | case5 off h len hs h0 hover hle hr ih => exact absurd ih (hr _)
  | case6 off h len hs h0 hover hle => omega
  | case7 off h => rw [List.drop_eq_nil_of_le (Nat.le_of_not_lt h), decodeTxtL]

theorem decodeTxt_eq (txt : BList) : decodeTxt txt = .ok (decodeTxtL txt) := by
  simp [decodeTxt, decodeTxtAt_eq]

/-- pure encoder: length byte then the string -/
def encL (ps : List TProp) : BList :=
  ps.flatMap (fun p => UInt8.ofNat p.str.length :: p.str)

theorem str_length (p : TProp) : p.str.length = p.strLen := by
  unfold TProp.str TProp.strLen
  cases p.val <;> simp

theorem acceptedProp_iff (p : TProp) :
    acceptedProp p = true ↔
      isAscii p.key = true ∧ p.key.contains 0x3D = false ∧ p.key ≠ [] ∧ p.strLen ≤ 255 := by
  simp [acceptedProp, and_assoc]

theorem encodeOne_accepted (p : TProp) (h : acceptedProp p = true) :
    encodeOne p = .ok (UInt8.ofNat p.str.length :: p.str) := by
  have := (acceptedProp_iff p).mp h
  unfold encodeOne
  simp [str_length, this.2.2.2]

theorem encodeProps_accepted : ∀ (ps : List TProp), accepted ps = true →
    encodeProps ps = .ok (encL ps)
  | [], _ => by simp [encodeProps, encL]
  | p :: ps, h => by
    simp only [accepted, List.all_cons, Bool.and_eq_true] at h
    rw [encodeProps, encodeOne_accepted p h.1, encodeProps_accepted ps (by simpa [accepted] using h.2)]
    simp [encL]

theorem str_ne_nil (p : TProp) (h : acceptedProp p = true) : 1 ≤ p.str.length := by
  have := (acceptedProp_iff p).mp h
  have hk : 1 ≤ p.key.length := by
    cases hk : p.key with
    | nil => exact absurd hk this.2.2.1
    | cons _ _ => simp
  unfold TProp.str
  simp
  omega

theorem propOfKV_str (p : TProp) (h : acceptedProp p = true) : propOfKV p.str = [p] := by
  have hp := (acceptedProp_iff p).mp h
  unfold propOfKV
  rw [splitKV_str p hp.2.1]
  simp [validUtf8_of_ascii p.key hp.1]

theorem decodeTxtL_chunk (str rest : BList) (h1 : 1 ≤ str.length) (h255 : str.length ≤ 255) :
    decodeTxtL (UInt8.ofNat str.length :: (str ++ rest)) = propOfKV str ++ decodeTxtL rest := by
  have htoNat : (UInt8.ofNat str.length).toNat = str.length := UInt8.toNat_ofNat_of_lt' (Nat.lt_succ_of_le h255)
  have hne : UInt8.ofNat str.length ≠ 0 := fun h0 => by
    rw [h0] at htoNat
    exact absurd (htoNat ▸ h1) (by decide)
  rw [decodeTxtL, if_neg hne, htoNat, List.length_append, if_neg (Nat.not_lt.mpr (Nat.le_add_right _ _)),
    List.take_left' rfl, List.drop_left' rfl]

theorem decodeTxtL_encL : ∀ (ps : List TProp), accepted ps = true → decodeTxtL (encL ps) = ps
  | [], _ => by rw [encL, List.flatMap_nil, decodeTxtL]
  | p :: ps, h => by
    rw [accepted, List.all_cons, Bool.and_eq_true] at h
    have hlen : p.str.length ≤ 255 := str_length p ▸ ((acceptedProp_iff p).mp h.1).2.2.2
    rw [encL, List.flatMap_cons, List.cons_append, ← encL, decodeTxtL_chunk _ _ (str_ne_nil p h.1) hlen,
      propOfKV_str p h.1, decodeTxtL_encL ps h.2]
    rfl

theorem mem_propOfKV {kv : BList} {p : TProp} (h : p ∈ propOfKV kv) : p.str = kv := by
  unfold propOfKV at h
  have hr := splitKV_recombine kv
  cases hs : splitKV kv with
  | mk k v =>
    rw [hs] at h hr
    simp only [] at h
    split at h
    · simp only [List.mem_singleton] at h
      subst h
      exact hr
    · cases h

theorem decodeTxtL_infix (txt : BList) : ∀ p ∈ decodeTxtL txt, p.str <:+: txt := by
  fun_induction decodeTxtL txt with
  | case1 => exact fun _ h => nomatch h
  | case2 => exact fun _ h => nomatch h
  | case3 => exact fun _ h => nomatch h
  | case4 len rest _ _ ih =>
    intro p hp
    refine List.IsInfix.trans ?_ (List.suffix_cons len rest).isInfix
    rcases List.mem_append.mp hp with hp | hp
    · exact mem_propOfKV hp ▸ (List.take_prefix _ _).isInfix
    · exact (ih p hp).trans (List.drop_suffix _ _).isInfix

theorem dedupGo_sublist (ps : List TProp) (seen : List BList) : (dedupGo ps seen).Sublist ps := by
  fun_induction dedupGo ps seen with
  | case1 => exact List.Sublist.slnil
  | case2 p _ _ _ ih => exact ih.cons p
  | case3 p _ _ _ ih => exact ih.cons_cons p

theorem dedupGo_not_seen (ps : List TProp) (seen : List BList) : ∀ q ∈ dedupGo ps seen, lower q.key ∉ seen := by
  fun_induction dedupGo ps seen with
  | case1 => exact fun _ h => nomatch h
  | case2 _ _ _ _ ih => exact ih
  | case3 p ps seen hs ih =>
    intro q hq
    rcases List.mem_cons.mp hq with rfl | hq
    · exact fun hm => hs (List.contains_iff_mem.mpr hm)
    · exact fun hm => ih q hq (List.mem_cons_of_mem _ hm)

theorem dedupGo_pairwise (ps : List TProp) (seen : List BList) :
    (dedupGo ps seen).Pairwise (fun a b => lower a.key ≠ lower b.key) := by
  fun_induction dedupGo ps seen with
  | case1 => exact List.Pairwise.nil
  | case2 _ _ _ _ ih => exact ih
  | case3 p ps seen _ ih =>
    exact List.pairwise_cons.mpr ⟨fun q hq e => dedupGo_not_seen ps _ q hq (e ▸ List.mem_cons_self), ih⟩

theorem find_dedupGo (k : BList) (ps : List TProp) (seen : List BList) (hk : lower k ∉ seen) :
    (dedupGo ps seen).find? (fun p => lower p.key == lower k) = ps.find? (fun p => lower p.key == lower k) := by
  fun_induction dedupGo ps seen with
  | case1 => rfl
  | case2 p ps seen hs ih =>
    have hb : (lower p.key == lower k) = false :=
      beq_eq_false_iff_ne.mpr fun e => hk (e ▸ List.contains_iff_mem.mp hs)
    simp only [List.find?_cons, hb, ih hk]
  | case3 p ps seen hs ih =>
    rw [List.find?_cons, List.find?_cons]
    split
    · rfl
    · next hne => exact ih fun hm => (List.mem_cons.mp hm).elim (fun e => by simp [e] at hne) hk

theorem dedupGo_id (ps : List TProp) (seen : List BList)
    (hpw : ps.Pairwise (fun a b => lower a.key ≠ lower b.key)) (hns : ∀ p ∈ ps, lower p.key ∉ seen) :
    dedupGo ps seen = ps := by
  fun_induction dedupGo ps seen with
  | case1 => rfl
  | case2 p _ _ hs => exact absurd (List.contains_iff_mem.mp hs) (hns p List.mem_cons_self)
  | case3 p ps seen _ ih =>
    have ⟨hhead, htail⟩ := List.pairwise_cons.mp hpw
    rw [ih htail fun q hq hm => (List.mem_cons.mp hm).elim (fun e => hhead q hq e.symm) (hns q (List.mem_cons_of_mem _ hq))]

theorem dedupGo_covers (ps : List TProp) (seen : List BList) : ∀ p ∈ ps,
    lower p.key ∈ seen ∨ ∃ q ∈ dedupGo ps seen, lower q.key = lower p.key := by
  fun_induction dedupGo ps seen with
  | case1 => exact fun _ h => nomatch h
  | case2 a ps seen hs ih =>
    intro p hp
    rcases List.mem_cons.mp hp with rfl | hp
    · exact Or.inl (List.contains_iff_mem.mp hs)
    · exact ih p hp
  | case3 a ps seen _ ih =>
    intro p hp
    rcases List.mem_cons.mp hp with rfl | hp
    · exact Or.inr ⟨p, List.mem_cons_self, rfl⟩
    · rcases ih p hp with h | ⟨q, hq, hk⟩
      · exact (List.mem_cons.mp h).elim (fun e => Or.inr ⟨a, List.mem_cons_self, e.symm⟩) Or.inl
      · exact Or.inr ⟨q, List.mem_cons_of_mem _ hq, hk⟩

end Mdns.Txt
