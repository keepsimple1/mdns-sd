import Mdns.Lemmas.ClientHostComplete
/-
  How the scheduling part of the client state (timers, queued re-runs, searches) evolves in a
  phase of `Client.iter`: the relation `Step`.  Every phase only PREPENDS timers (apart from
  `pop_timers_till`), every re-run it queues comes with its timer, every deadline it sets
  comes with its timer.  Shared by C12 (wake-up covers the due work), C13 (a stopped search
  leaves nothing behind) and C20 (timers are bounded).
-/
namespace Mdns.Client
open Mdns Mdns.Rec Mdns.Cache

/-- the search a queued re-run belongs to: (kind, name, channel) -/
def rkey : RCmd → Option (Nat × BList × Nat)
  | .browse ty _ ch => some (0, ty, ch)
  | .resolveHost h _ ch => some (1, h, ch)
  | _ => none

/-- the search a command starts -/
def ckey : Command → Option (Nat × BList × Nat)
  | .browse ty ch _ => some (0, ty, ch)
  | .resolveHost h ch _ => some (1, h, ch)
  | _ => none

/-- the back-off delay of a queued re-run is at least a second and at most one hour -/
def DelayOk (r : Rerun) : Prop :=
  match r.cmd with
  | .browse _ d _ => 1 ≤ d ∧ d ≤ 3600
  | .resolveHost _ d _ => 1 ≤ d ∧ d ≤ 3600
  | _ => True

theorem nextDelay_le (d : Nat) (h : 1 ≤ d) : 1 ≤ Sched.nextDelay d ∧ Sched.nextDelay d ≤ 3600 := by
  simp only [Sched.nextDelay, Sched.MAX_DELAY]
  omega

/-- `s'` is `s` after a phase at `now` that executed (some of) the commands `cmds`:
    * timers are only prepended, and the new ones satisfy `OK`;
    * a queued re-run is an old one, or it is due after `now`, has a timer at its due time, a
      delay between a second and an hour, and a key satisfying `KeyOK`;
    * an open hostname search is an old one, or was started by a `resolve_hostname` of `cmds`
      and its deadline (if any) has a timer;
    * a browse is an old one or was started by a `browse` of `cmds`;
    * the next interface check is untouched. -/
structure Step (now : Nat) (cmds : List Command) (KeyOK : Option (Nat × BList × Nat) → Prop) (OK : Nat → Prop)
    (s s' : State) : Prop where
  timers : ∃ new, s'.timers = new ++ s.timers ∧ ∀ t ∈ new, OK t
  reruns : ∀ r ∈ s'.reruns, r ∈ s.reruns ∨ (r.next ∈ s'.timers ∧ now < r.next ∧ DelayOk r ∧ KeyOK (rkey r.cmd))
  resolvers : ∀ q ∈ s'.resolvers, q ∈ s.resolvers ∨
    ∃ h t, Command.resolveHost h q.2.1 t ∈ cmds ∧ q.1 = lower h ∧ ∀ dl, q.2.2 = some dl → dl ∈ s'.timers
  queriers : ∀ q ∈ s'.queriers, q ∈ s.queriers ∨ ∃ co, Command.browse q.1 q.2 co ∈ cmds
  ip : s'.nextIpCheck = s.nextIpCheck

variable {now : Nat} {cmds : List Command} {KeyOK : Option (Nat × BList × Nat) → Prop} {OK : Nat → Prop}

theorem Step.timers_mono {s s' : State} (h : Step now cmds KeyOK OK s s') : ∀ t ∈ s.timers, t ∈ s'.timers := by
  obtain ⟨new, hn, _⟩ := h.timers
  intro t ht
  rw [hn]
  exact List.mem_append_right _ ht

theorem Step.of_sub {s s' : State} (ht : s'.timers = s.timers) (hr : ∀ r ∈ s'.reruns, r ∈ s.reruns)
    (hv : ∀ q ∈ s'.resolvers, q ∈ s.resolvers) (hq : ∀ q ∈ s'.queriers, q ∈ s.queriers)
    (hi : s'.nextIpCheck = s.nextIpCheck) : Step now cmds KeyOK OK s s' :=
  ⟨⟨[], by simp [ht], fun _ h => by cases h⟩, fun r h => Or.inl (hr r h), fun q h => Or.inl (hv q h),
   fun q h => Or.inl (hq q h), hi⟩

theorem Step.same {s s' : State} (ht : s'.timers = s.timers) (hr : s'.reruns = s.reruns)
    (hv : s'.resolvers = s.resolvers) (hq : s'.queriers = s.queriers) (hi : s'.nextIpCheck = s.nextIpCheck) :
    Step now cmds KeyOK OK s s' :=
  Step.of_sub ht (fun _ h => hr ▸ h) (fun _ h => hv ▸ h) (fun _ h => hq ▸ h) hi

theorem Step.refl (s : State) : Step now cmds KeyOK OK s s := .same rfl rfl rfl rfl rfl

theorem Step.trans {a b c : State} (h1 : Step now cmds KeyOK OK a b) (h2 : Step now cmds KeyOK OK b c) :
    Step now cmds KeyOK OK a c := by
  obtain ⟨n1, e1, o1⟩ := h1.timers
  obtain ⟨n2, e2, o2⟩ := h2.timers
  refine ⟨⟨n2 ++ n1, by rw [e2, e1, List.append_assoc], ?_⟩, ?_, ?_, ?_, h2.ip.trans h1.ip⟩
  · intro t ht
    rcases List.mem_append.mp ht with ht | ht
    · exact o2 t ht
    · exact o1 t ht
  · intro r hr
    rcases h2.reruns r hr with h | h
    · rcases h1.reruns r h with h | ⟨h3, h4⟩
      · exact Or.inl h
      · exact Or.inr ⟨h2.timers_mono _ h3, h4⟩
    · exact Or.inr h
  · intro q hq
    rcases h2.resolvers q hq with h | h
    · rcases h1.resolvers q h with h | ⟨h0, t, h3, h4, h5⟩
      · exact Or.inl h
      · exact Or.inr ⟨h0, t, h3, h4, fun dl hd => h2.timers_mono _ (h5 dl hd)⟩
    · exact Or.inr h
  · intro q hq
    rcases h2.queriers q hq with h | h
    · exact h1.queriers q h
    · exact Or.inr h

theorem Step.mono {cmds' : List Command} {KeyOK' : Option (Nat × BList × Nat) → Prop} {OK' : Nat → Prop} {s s' : State}
    (h : Step now cmds KeyOK OK s s') (hc : ∀ c ∈ cmds, c ∈ cmds') (hk : ∀ k, KeyOK k → KeyOK' k)
    (ho : ∀ t, OK t → OK' t) : Step now cmds' KeyOK' OK' s s' := by
  obtain ⟨n1, e1, o1⟩ := h.timers
  refine ⟨⟨n1, e1, fun t ht => ho t (o1 t ht)⟩, ?_, ?_, ?_, h.ip⟩
  · intro r hr
    rcases h.reruns r hr with h | ⟨h1, h0, h2, h3⟩
    · exact Or.inl h
    · exact Or.inr ⟨h1, h0, h2, hk _ h3⟩
  · intro q hq
    rcases h.resolvers q hq with h | ⟨h0, t, h3, h4, h5⟩
    · exact Or.inl h
    · exact Or.inr ⟨h0, t, hc _ h3, h4, h5⟩
  · intro q hq
    rcases h.queriers q hq with h | ⟨co, h⟩
    · exact Or.inl h
    · exact Or.inr ⟨co, hc _ h⟩

theorem step_addRerun (s : State) (n : Nat) (c : RCmd) (hO : OK n) (hn : now < n) (hd : DelayOk ⟨n, c⟩)
    (hk : KeyOK (rkey c)) : Step now cmds KeyOK OK s (addRerun s n c) := by
  refine ⟨⟨[n], rfl, fun t ht => by simp at ht; exact ht ▸ hO⟩, ?_, fun q h => Or.inl h, fun q h => Or.inl h, rfl⟩
  intro r hr
  simp only [addRerun, List.mem_append, List.mem_singleton] at hr
  rcases hr with hr | rfl
  · exact Or.inl hr
  · exact Or.inr ⟨by simp [addRerun], hn, hd, hk⟩

theorem step_addTimers (s : State) (ts : List Nat) (hO : ∀ t ∈ ts, OK t) :
    Step now cmds KeyOK OK s (addTimers s ts) :=
  ⟨⟨ts, rfl, hO⟩, fun _ h => Or.inl h, fun _ h => Or.inl h, fun _ h => Or.inl h, rfl⟩

theorem step_addPending (s : State) (i : BList) (hO : OK (now + 500)) (hk : KeyOK none) :
    Step now cmds KeyOK OK s (addPending s now i) := by
  unfold addPending
  split
  · exact Step.refl s
  · have h1 : Step now cmds KeyOK OK s (addRerun s (now + RESOLVE_WAIT) (.resolve i 1)) :=
      step_addRerun s _ _ hO (by simp [RESOLVE_WAIT]) trivial hk
    exact h1.trans (Step.same rfl rfl rfl rfl rfl)

theorem step_addPendings (hO : OK (now + 500)) (hk : KeyOK none) : ∀ (l : List BList) (s : State),
    Step now cmds KeyOK OK s (addPendings s now l)
  | [], s => Step.refl s
  | i :: rest, s => by
    simp only [addPendings]
    exact (step_addPending s i hO hk).trans (step_addPendings hO hk rest _)

theorem step_resolveUpdated (s : State) (u : List BList) (hO : OK (now + 500)) (hk : KeyOK none) :
    Step now cmds KeyOK OK s (resolveUpdated s now u).1 := by
  unfold resolveUpdated
  split
  · exact Step.refl s
  · simp only []
    refine Step.trans ?_ (step_addPendings hO hk _ _)
    exact Step.same rfl rfl rfl rfl rfl

/-- what the entry returned by `add_or_update` of a decoded record looks like: created now with
    the TTL of the record, expiring at the end of that TTL, refresh mark at 80 % (or none) -/
theorem addOrUpdate_result_times (c : Cache) (ifName : BList) (ifIdx now : Nat) (r : Wire.Rec) (forUs : Bool)
    (e : Entry) (b : Bool)
    (h : (addOrUpdate c ifName ifIdx (ofWire ifName ifIdx now r) now forUs).result = some (e, b)) :
    e.record.created = now ∧ e.record.ttl = r.ttl ∧ e.record.expires = expTime now r.ttl 100 ∧
    (e.record.refresh = expTime now r.ttl 80 ∨ e.record.refresh = expTime now r.ttl 100) := by
  unfold addOrUpdate at h
  split at h
  · cases h
  · simp only [] at h
    split at h
    · cases h
    · simp only [Option.map_eq_some_iff, Prod.mk.injEq] at h
      obtain ⟨e', hget, rfl, _⟩ := h
      rcases upsert_at_idx _ _ _ _ _ hget with ⟨e0, _, rfl⟩ | rfl
      · refine ⟨rfl, rfl, rfl, ?_⟩
        by_cases httl : r.ttl > 1
        · left
          simp [Record.resetTtl, ofWire, Record.new, httl]
        · right
          simp [Record.resetTtl, ofWire, Record.new, httl]
      · exact ⟨rfl, rfl, rfl, Or.inl rfl⟩

theorem mem_flushTimers (inc : Record) (now : Nat) (es : List Entry) (t : Nat) (h : t ∈ flushTimers inc now es) :
    t = now + 1000 := by
  unfold flushTimers at h
  split at h
  · simp only [List.mem_map] at h
    obtain ⟨_, _, rfl⟩ := h
    rfl
  · cases h

theorem addOrUpdate_timers (c : Cache) (srcName : BList) (srcIdx : Nat) (inc : Record) (now : Nat) (forUs : Bool)
    (t : Nat) (h : t ∈ (addOrUpdate c srcName srcIdx inc now forUs).timers) : t = now + 1000 := by
  unfold addOrUpdate at h
  split at h
  · cases h
  · simp only [] at h
    split at h
    · cases h
    · exact mem_flushTimers _ _ _ _ h

/-- the timers after one turn of the ingress loop: those so far, those of `add_or_update`, the
    expiry instant and the refresh mark of the entry it returns, and at most that mark once more -/
theorem ingestOne_timers_eq (q : List (BList × Nat)) (ifName : BList) (ifIdx now : Nat) (forUs : Bool) (acc : Ingest)
    (r : Wire.Rec) :
    ∃ extra, (ingestOne q ifName ifIdx now forUs acc r).timers =
      acc.timers ++ (addOrUpdate acc.cache ifName ifIdx (ofWire ifName ifIdx now r) now forUs).timers ++
        ((addOrUpdate acc.cache ifName ifIdx (ofWire ifName ifIdx now r) now forUs).result.elim []
          fun p => [p.1.record.expires, p.1.record.refresh]) ++ extra ∧
      ∀ x ∈ extra, ∃ p, (addOrUpdate acc.cache ifName ifIdx (ofWire ifName ifIdx now r) now forUs).result = some p ∧
        x = p.1.record.refresh := by
  unfold ingestOne
  simp only []
  split
  · rename_i h
    exact ⟨[], by simp [h], fun _ hx => nomatch hx⟩
  · rename_i e h
    exact ⟨[], by simp [h], fun _ hx => nomatch hx⟩
  · rename_i e h
    simp only [h, Option.elim]
    split
    · split
      · split
        · exact ⟨[_], rfl, fun x hx => ⟨_, rfl, List.mem_singleton.mp hx⟩⟩
        · exact ⟨[], (List.append_nil _).symm, fun _ hx => nomatch hx⟩
      · exact ⟨[], (List.append_nil _).symm, fun _ hx => nomatch hx⟩
    · exact ⟨[], (List.append_nil _).symm, fun _ hx => nomatch hx⟩

/-- the timers one record adds: one second ahead (cache flush), or the end / the refresh mark
    of the record's own lifetime -/
theorem ingestOne_timers (q : List (BList × Nat)) (ifName : BList) (ifIdx now : Nat) (forUs : Bool) (acc : Ingest)
    (r : Wire.Rec) (t : Nat) (h : t ∈ (ingestOne q ifName ifIdx now forUs acc r).timers) :
    t ∈ acc.timers ∨ t = now + 1000 ∨ t = expTime now r.ttl 100 ∨ t = expTime now r.ttl 80 := by
  obtain ⟨extra, e, hx⟩ := ingestOne_timers_eq q ifName ifIdx now forUs acc r
  have hr : ∀ p, (addOrUpdate acc.cache ifName ifIdx (ofWire ifName ifIdx now r) now forUs).result = some p →
      t = p.1.record.expires ∨ t = p.1.record.refresh →
      t ∈ acc.timers ∨ t = now + 1000 ∨ t = expTime now r.ttl 100 ∨ t = expTime now r.ttl 80 := by
    intro p hp ht
    obtain ⟨_, _, h3, h4⟩ := addOrUpdate_result_times _ _ _ _ _ _ p.1 p.2 hp
    rcases ht with ht | ht
    · exact Or.inr (Or.inr (Or.inl (ht.trans h3)))
    · exact Or.inr (Or.inr (h4.symm.imp ht.trans ht.trans))
  rw [e] at h
  simp only [List.mem_append] at h
  rcases h with ((h | h) | h) | h
  · exact Or.inl h
  · exact Or.inr (Or.inl (addOrUpdate_timers _ _ _ _ _ _ t h))
  · cases hp : (addOrUpdate acc.cache ifName ifIdx (ofWire ifName ifIdx now r) now forUs).result with
    | none => rw [hp] at h; cases h
    | some p =>
      rw [hp] at h
      simp only [Option.elim, List.mem_cons, List.not_mem_nil, or_false] at h
      exact hr p hp h
  · obtain ⟨p, hp, rfl⟩ := hx t h
    exact hr p hp (Or.inr rfl)

theorem ingestAll_timers (q : List (BList × Nat)) (ifName : BList) (ifIdx now : Nat) (forUs : Bool) :
    ∀ (rs : List Wire.Rec) (acc : Ingest) (t : Nat), t ∈ (ingestAll q ifName ifIdx now forUs acc rs).timers →
      t ∈ acc.timers ∨ t = now + 1000 ∨ ∃ r ∈ rs, t = expTime now r.ttl 100 ∨ t = expTime now r.ttl 80
  | [], _, _, h => Or.inl h
  | r :: rest, acc, t, h => by
    simp only [ingestAll] at h
    rcases ingestAll_timers q ifName ifIdx now forUs rest _ t h with h | h | ⟨r', hr', h⟩
    · rcases ingestOne_timers q ifName ifIdx now forUs acc r t h with h | h | h | h
      · exact Or.inl h
      · exact Or.inr (Or.inl h)
      · exact Or.inr (Or.inr ⟨r, List.mem_cons_self, Or.inl h⟩)
      · exact Or.inr (Or.inr ⟨r, List.mem_cons_self, Or.inr h⟩)
    · exact Or.inr (Or.inl h)
    · exact Or.inr (Or.inr ⟨r', List.mem_cons_of_mem _ hr', h⟩)

/-- the timers a response arms: `now + 1 s` (cache flush), `now + 500 ms` (follow-up), or the
    end / 80 % mark of the lifetime of one of its records -/
def ResponseTimer (now : Nat) (rs : List Wire.Rec) (t : Nat) : Prop :=
  t = now + 1000 ∨ t = now + 500 ∨ ∃ r ∈ rs, t = expTime now r.ttl 100 ∨ t = expTime now r.ttl 80

theorem step_handleResponse (s : State) (intf : Intf) (m : Wire.Msg) (hk : KeyOK none)
    (hO : ∀ t, ResponseTimer now (m.answers ++ m.authorities ++ m.additionals) t → OK t) :
    Step now cmds KeyOK OK s (handleResponse s now intf m).1 := by
  unfold handleResponse
  simp only []
  refine Step.trans ?_ (step_resolveUpdated _ _ (hO _ (Or.inr (Or.inl rfl))) hk)
  refine Step.trans (b := { s with cache := (ingestAll s.queriers intf.name intf.idx now (isForUs s m.answers)
      { cache := s.cache, timers := [], changes := [], outs := [] } (m.answers ++ m.authorities ++ m.additionals)).cache })
    (Step.same rfl rfl rfl rfl rfl) ?_
  apply step_addTimers
  intro t ht
  rcases ingestAll_timers _ _ _ _ _ _ _ t ht with h | h | h
  · cases h
  · exact hO t (Or.inl h)
  · exact hO t (Or.inr (Or.inr h))

/-- the timers the datagrams of an iteration arm: the hypothesis of `step_ingress` on `OK` -/
def IngressTimer (now : Nat) (ds : List Delivery) (t : Nat) : Prop :=
  t = now + 1000 ∨ t = now + 500 ∨ ∃ d ∈ ds, d.time = now ∧ (t = expTime now d.wire.ttl 100 ∨ t = expTime now d.wire.ttl 80)

theorem step_handleRead (s : State) (p : Packet) (hk : KeyOK none)
    (hO : ∀ t, IngressTimer now (pktDeliveries s now p) t → OK t) :
    Step now cmds KeyOK OK s (handleRead s now p).1 := by
  rcases handleRead_deliveries s now p with ⟨h1, _⟩ | ⟨intf, h1, h2⟩ <;> rw [h1]
  · exact Step.refl s
  · refine step_handleResponse s intf p.msg hk fun t ht => hO t (h2 ▸ ?_)
    exact ht.imp id (Or.imp id fun ⟨r, hr, h⟩ => ⟨⟨now, intf.name, intf.idx, r⟩, List.mem_map.mpr ⟨r, hr, rfl⟩, rfl, h⟩)

theorem step_ingress (hk : KeyOK none) : ∀ (pkts : List Packet) (s : State),
    (∀ t, IngressTimer now (deliveries s now pkts) t → OK t) → Step now cmds KeyOK OK s (ingress s now pkts).1
  | [], s, _ => Step.refl s
  | p :: rest, s, hO => by
    simp only [ingress]
    have mono : ∀ (a b : List Delivery) (t : Nat), (∀ d ∈ a, d ∈ b) → IngressTimer now a t → IngressTimer now b t := by
      intro a b t hab h
      rcases h with h | h | ⟨d, hd, h⟩
      · exact Or.inl h
      · exact Or.inr (Or.inl h)
      · exact Or.inr (Or.inr ⟨d, hab d hd, h⟩)
    refine (step_handleRead s p hk fun t ht => hO t ?_).trans (step_ingress hk rest _ fun t ht => hO t ?_)
    · exact mono _ _ t (fun d hd => by simp only [deliveries]; exact List.mem_append_left _ hd) ht
    · exact mono _ _ t (fun d hd => by simp only [deliveries]; exact List.mem_append_right _ hd) ht

theorem step_queryCacheForService (s : State) (ty : BList) (ch : Nat) (hO : OK (now + 500)) (hk : KeyOK none) :
    Step now cmds KeyOK OK s (queryCacheForService s now ty ch).1 := by
  simp only [queryCacheForService]
  refine Step.trans ?_ (step_addPendings hO hk _ _)
  exact Step.same rfl rfl rfl rfl rfl

theorem step_execBrowse_new (s : State) (ty : BList) (d : Nat) (co : Bool) (ch : Nat) (hd : 1 ≤ d)
    (hc : Command.browse ty ch co ∈ cmds) (hO : OK (now + 500)) (hOd : OK (now + d * 1000)) (hk : KeyOK none)
    (hkb : KeyOK (some (0, ty, ch))) : Step now cmds KeyOK OK s (execBrowse s now false ty d co ch).1 := by
  have h0 : Step now cmds KeyOK OK s
      { s with reruns := s.reruns.filter (fun r => !isBrowseOf ty r),
               queriers := (ty, ch) :: s.queriers.filter (fun q => q.1 != ty),
               cacheOnly := if co then insertSet s.cacheOnly ty else s.cacheOnly.filter (· != ty) } := by
    refine ⟨⟨[], rfl, fun _ h => by cases h⟩, fun r h => Or.inl (List.mem_filter.mp h).1, fun q h => Or.inl h, ?_, rfl⟩
    intro q hq
    rcases List.mem_cons.mp hq with rfl | hq
    · exact Or.inr ⟨co, hc⟩
    · exact Or.inl (List.mem_filter.mp hq).1
  have h1 := h0.trans (step_queryCacheForService _ ty ch hO hk)
  unfold execBrowse
  cases co
  · simp only [Bool.false_eq_true, if_false] at h1 ⊢
    exact h1.trans (step_addRerun _ _ (.browse ty (Sched.nextDelay d) ch) hOd (by omega) (nextDelay_le d hd) hkb)
  · simp only [Bool.false_eq_true, if_false, if_true] at h1 ⊢
    exact h1

theorem step_execBrowse_rep (s : State) (ty : BList) (d : Nat) (ch : Nat) (hd : 1 ≤ d)
    (hOd : OK (now + d * 1000)) (hkb : KeyOK (some (0, ty, ch))) :
    Step now cmds KeyOK OK s (execBrowse s now true ty d false ch).1 := by
  unfold execBrowse
  simp only [if_true, Bool.false_eq_true, if_false]
  exact step_addRerun _ _ (.browse ty (Sched.nextDelay d) ch) hOd (by omega) (nextDelay_le d hd) hkb

theorem step_execResolveHost_new (s : State) (host : BList) (d ch : Nat) (to : Option Nat) (hd : 1 ≤ d)
    (hc : Command.resolveHost host ch to ∈ cmds) (hOt : ∀ t, to = some t → OK (now + t)) (hOd : OK (now + d * 1000))
    (hkb : KeyOK (some (1, host, ch))) : Step now cmds KeyOK OK s (execResolveHost s now false host d ch to).1 := by
  have h0 : ∀ ts : List Nat, (∀ t ∈ ts, OK t) → (∀ dl, to.map (now + ·) = some dl → dl ∈ ts) →
      Step now cmds KeyOK OK s
      { s with reruns := s.reruns.filter (fun r => !isResolveOf (lower host) r),
               resolvers := (lower host, ch, to.map (now + ·)) :: s.resolvers.filter (fun q => q.1 != lower host),
               timers := ts ++ s.timers } := by
    intro ts hts hdl
    refine ⟨⟨ts, rfl, hts⟩, fun r h => Or.inl (List.mem_filter.mp h).1, ?_, fun q h => Or.inl h, rfl⟩
    intro q hq
    rcases List.mem_cons.mp hq with rfl | hq
    · refine Or.inr ⟨host, to, hc, rfl, ?_⟩
      intro dl hd
      exact List.mem_append_left _ (hdl dl hd)
    · exact Or.inl (List.mem_filter.mp hq).1
  rw [execResolveHost_new]
  cases to with
  | none =>
    have h1 := h0 [] (fun _ h => by cases h) (fun dl hd => by simp at hd)
    simp only [Option.map_none]
    split
    · exact h1.trans (step_addRerun _ _ (.resolveHost host (Sched.nextDelay d) ch) hOd (by omega) (nextDelay_le d hd) hkb)
    · exact h1
  | some t0 =>
    have h1 := h0 [now + t0] (fun t ht => by simp only [List.mem_singleton] at ht; exact ht ▸ hOt t0 rfl)
      (fun dl hd => by simp only [Option.map_some, Option.some.injEq] at hd; simp [hd])
    simp only [Option.map_some]
    split
    · exact h1.trans (step_addRerun _ _ (.resolveHost host (Sched.nextDelay d) ch) hOd (by omega) (nextDelay_le d hd) hkb)
    · exact h1

theorem step_execResolveHost_rep (s : State) (host : BList) (d ch : Nat) (hd : 1 ≤ d)
    (hOd : OK (now + d * 1000)) (hkb : KeyOK (some (1, host, ch))) :
    Step now cmds KeyOK OK s (execResolveHost s now true host d ch none).1 := by
  rw [execResolveHost_rep]
  split
  · exact Step.refl s
  · split
    · exact step_addRerun _ _ (.resolveHost host (Sched.nextDelay d) ch) hOd (by omega) (nextDelay_le d hd) hkb
    · exact Step.refl s

theorem step_execStopBrowse (s : State) (ty : BList) : Step now cmds KeyOK OK s (execStopBrowse s ty).1 := by
  unfold execStopBrowse
  split
  · exact Step.refl s
  · exact Step.of_sub rfl (fun _ h => (List.mem_filter.mp h).1) (fun _ h => h) (fun _ h => (List.mem_filter.mp h).1) rfl

theorem step_execStopResolve (s : State) (host : BList) : Step now cmds KeyOK OK s (execStopResolve s host).1 := by
  unfold execStopResolve
  simp only []
  split
  · exact Step.refl s
  · exact Step.of_sub rfl (fun _ h => (List.mem_filter.mp h).1) (fun _ h => (List.mem_filter.mp h).1) (fun _ h => h) rfl

theorem step_execResolveInst (s : State) (inst : BList) (k : Nat) (hO : OK (now + 500)) (hk : KeyOK none) :
    Step now cmds KeyOK OK s (execResolveInst s now inst k).1 := by
  unfold execResolveInst
  split
  · exact Step.refl s
  · simp only []
    split
    · exact step_addRerun _ _ _ hO (by simp [RESOLVE_WAIT]) trivial hk
    · exact Step.refl s

theorem step_execVerify_new (s : State) (inst : BList) (to : Nat) (hOt : OK (now + to)) (hO1 : OK (now + 1000))
    (hk : KeyOK none) : Step now cmds KeyOK OK s (execVerify s now false inst to).1 := by
  have h0 : Step now cmds KeyOK OK s { s with cache := (serviceVerifyQueries s.cache inst (some (now + to))).1 } :=
    Step.same rfl rfl rfl rfl rfl
  unfold execVerify
  simp only [Bool.false_eq_true, if_false]
  split
  · exact h0
  · refine (h0.trans (step_addTimers _ [now + to] ?_)).trans (step_addRerun _ _ _ hO1 (by omega) trivial hk)
    intro t ht
    simp only [List.mem_singleton] at ht
    exact ht ▸ hOt

theorem step_execVerify_rep (s : State) (inst : BList) (to : Nat) :
    Step now cmds KeyOK OK s (execVerify s now true inst to).1 := by
  unfold execVerify
  simp only [if_true]
  split <;> exact Step.same rfl rfl rfl rfl rfl

/-- the timers a command arms: the follow-up half a second ahead, the first retransmission / the
    verify resend one second ahead, the deadline the caller gave -/
def CommandTimer (now : Nat) (c : Command) (t : Nat) : Prop :=
  t = now + 500 ∨ t = now + 1000 ∨ (∃ h ch to, c = .resolveHost h ch (some to) ∧ t = now + to) ∨
    (∃ inst to, c = .verify inst to ∧ t = now + to)

theorem step_execCommand (s : State) (c : Command) (hc : c ∈ cmds) (hO : ∀ t, CommandTimer now c t → OK t)
    (hk : KeyOK none) (hkc : KeyOK (ckey c)) : Step now cmds KeyOK OK s (execCommand s now c).1 := by
  cases c with
  | browse ty ch co =>
    exact step_execBrowse_new s ty 1 co ch (Nat.le_refl 1) hc (hO _ (Or.inl rfl)) (hO _ (Or.inr (Or.inl (by omega)))) hk hkc
  | stopBrowse ty => exact step_execStopBrowse s ty
  | resolveHost h ch to =>
    refine step_execResolveHost_new s h 1 ch to (Nat.le_refl 1) hc ?_ (hO _ (Or.inr (Or.inl (by omega)))) hkc
    intro t ht
    exact hO _ (Or.inr (Or.inr (Or.inl ⟨h, ch, t, by rw [ht], rfl⟩)))
  | stopResolve h => exact step_execStopResolve s h
  | ipInterval ms => exact Step.same rfl rfl rfl rfl rfl
  | verify inst to =>
    exact step_execVerify_new s inst to (hO _ (Or.inr (Or.inr (Or.inr ⟨inst, to, rfl, rfl⟩)))) (hO _ (Or.inr (Or.inl rfl))) hk
  | metrics ch => exact Step.refl s
  | acceptUnsolicited on => exact Step.same rfl rfl rfl rfl rfl

theorem step_runCommands (hk : KeyOK none) (l : List Command) (s : State) (hc : ∀ c ∈ l, c ∈ cmds)
    (hO : ∀ c ∈ l, ∀ t, CommandTimer now c t → OK t) (hkc : ∀ c ∈ l, KeyOK (ckey c)) :
    Step now cmds KeyOK OK s (runCommands s now l).1 :=
  runCommands_induct (P := Step now cmds KeyOK OK s) now
    (ok := fun c => c ∈ cmds ∧ (∀ t, CommandTimer now c t → OK t) ∧ KeyOK (ckey c))
    (fun s' c ⟨h1, h2, h3⟩ hp => hp.trans (step_execCommand s' c h1 h2 hk h3)) l s
    (fun c h => ⟨hc c h, hO c h, hkc c h⟩) (Step.refl s)

/-- the timers a re-run arms: the next follow-up half a second ahead, or the next
    retransmission `delay` seconds ahead -/
def RerunTimer (now : Nat) (c : RCmd) (t : Nat) : Prop :=
  t = now + 500 ∨ (∃ ty d ch, c = .browse ty d ch ∧ t = now + d * 1000) ∨
    (∃ h d ch, c = .resolveHost h d ch ∧ t = now + d * 1000)

-- `DelayOk` speaks of a queued `Rerun`; only its command matters, hence `⟨0, c⟩`
theorem step_execRerun (s : State) (c : RCmd) (hd : DelayOk ⟨0, c⟩) (hO : ∀ t, RerunTimer now c t → OK t) (hk : KeyOK none)
    (hkc : KeyOK (rkey c)) : Step now cmds KeyOK OK s (execRerun s now c).1 := by
  cases c with
  | browse ty d ch => exact step_execBrowse_rep s ty d ch hd.1 (hO _ (Or.inr (Or.inl ⟨ty, d, ch, rfl, rfl⟩))) hkc
  | resolveHost h d ch => exact step_execResolveHost_rep s h d ch hd.1 (hO _ (Or.inr (Or.inr ⟨h, d, ch, rfl, rfl⟩))) hkc
  | resolve inst k => exact step_execResolveInst s inst k (hO _ (Or.inl rfl)) hk
  | verify inst to => exact step_execVerify_rep s inst to

/-- a step made on a state with an empty queue, seen on the state with the queue put back -/
theorem Step.with_queue {a b : State} (h : Step now cmds KeyOK OK a b) (ha : a.reruns = []) (l1 l2 : List Rerun) (r : Rerun) :
    Step now cmds KeyOK OK { a with reruns := l1 ++ r :: l2 } { b with reruns := l1 ++ (l2 ++ b.reruns) } := by
  refine ⟨h.timers, ?_, h.resolvers, h.queriers, h.ip⟩
  intro x hx
  simp only [List.mem_append, List.mem_cons] at hx ⊢
  rcases hx with hx | hx | hx
  · exact Or.inl (Or.inl hx)
  · exact Or.inl (Or.inr (Or.inr hx))
  · rcases h.reruns x hx with h1 | h1
    · rw [ha] at h1
      cases h1
    · exact Or.inr h1

theorem step_rerunPhase (s : State) (hk : KeyOK none)
    (hO : ∀ r : Rerun, DelayOk r → ∀ t, RerunTimer now r.cmd t → OK t)
    (hall : ∀ r ∈ s.reruns, DelayOk r ∧ KeyOK (rkey r.cmd)) : Step now cmds KeyOK OK s (rerunPhase s now).1 := by
  refine (rerunPhase_induct (Q := fun _ => True) now
    (P := fun s' => Step now cmds KeyOK OK s s' ∧ ∀ r ∈ s'.reruns, DelayOk r ∧ KeyOK (rkey r.cmd))
    (fun s' keep rest r hq _ ⟨hst, hall⟩ => ⟨?_, fun _ _ => trivial⟩) s ⟨Step.refl s, hall⟩).1.1
  have hr := hall r (by simp [hq])
  have hex : Step now cmds KeyOK OK { s' with reruns := [] } (execRerun { s' with reruns := [] } now r.cmd).1 :=
    step_execRerun _ r.cmd hr.1 (hO r hr.1) hk hr.2
  have hs' : ({ ({ s' with reruns := [] } : State) with reruns := keep ++ r :: rest } : State) = s' := by
    rw [← hq]
  refine ⟨hst.trans (hs' ▸ hex.with_queue rfl keep rest r), fun x hx => ?_⟩
  simp only [List.mem_append] at hx
  rcases hx with hx | hx | hx
  · exact hall x (by simp [hq, hx])
  · exact hall x (by simp [hq, hx])
  · rcases hex.reruns x hx with h1 | ⟨_, _, h3, h4⟩
    · cases h1
    · exact ⟨h3, h4⟩

theorem refreshNext_le (r : Record) : r.refreshNext ≤ expTime r.created r.ttl 100 := by
  unfold Record.refreshNext
  repeat' split
  all_goals exact expTime_le _ _ (by decide)

theorem refreshEntries_timers (now : Nat) (es : List Entry) (t : Nat) (h : t ∈ (refreshEntries now es).2) :
    ∃ e ∈ es, t ≤ expTime e.record.created e.record.ttl 100 := by
  simp only [refreshEntries, List.mem_filterMap] at h
  obtain ⟨e, he, hx⟩ := h
  split at hx
  · rename_i hf
    simp only [Option.some.injEq] at hx
    refine ⟨e, he, ?_⟩
    rw [← hx]
    simp only [Record.refreshed, hf, if_true]
    exact refreshNext_le e.record
  · cases hx

/-- a timer of `refresh_active_services` on the cache `c0`: within the lifetime of an entry of
    `c0`, or of a cache that the refresh look-ups made of it -/
def RefreshTimer (c0 : Cache) (t : Nat) : Prop :=
  ∃ c, CacheLow c0 c ∧ ∃ sl, ∃ p ∈ c.table sl, ∃ e ∈ p.2, t ≤ expTime e.record.created e.record.ttl 100

theorem RefreshTimer.of_get {c : Cache} (sl : Slot) {k : BList} {t : Nat}
    (h : ∃ e ∈ ((c.table sl).get k).getD [], t ≤ expTime e.record.created e.record.ttl 100) : RefreshTimer c t :=
  let ⟨e, he, hle⟩ := h
  let ⟨p, hp, _, hpe⟩ := mem_getD _ _ e he
  ⟨c, .refl c, sl, p, hp, e, hpe, hle⟩

theorem RefreshTimer.low {c0 c : Cache} (hl : CacheLow c0 c) {t : Nat} (h : RefreshTimer c t) : RefreshTimer c0 t :=
  let ⟨c', h1, r⟩ := h
  ⟨c', hl.trans h1, r⟩

theorem refreshSrvTxtGo_timers (now : Nat) : ∀ (l : List BList) (sd : SrvTxtDue) (t : Nat),
    t ∈ (refreshSrvTxtGo now l sd).timers → t ∈ sd.timers ∨ RefreshTimer sd.cache t
  | [], _, _, h => Or.inl h
  | inst :: rest, sd, t, h => by
    unfold refreshSrvTxtGo at h
    rcases refreshSrvTxtGo_timers now rest _ t h with h | h
    · simp only [List.mem_append] at h
      rcases h with (h | h) | h
      · exact Or.inl h
      · exact Or.inr (.of_get .srv (refreshEntries_timers now _ t h))
      · exact Or.inr (.of_get .txt (refreshEntries_timers now _ t h))
    · refine Or.inr (RefreshTimer.low ?_ h)
      exact tables_intro (T := fun sl => TableLow (sd.cache.table sl)) (.refl _)
        (TableLow.modify _ _ _ (listLow_refreshEntries now)) (TableLow.modify _ _ _ (listLow_refreshEntries now))
        (.refl _) (.refl _)

theorem refreshHostsGo_timers (now : Nat) : ∀ (l : List BList) (hd : HostsDue) (t : Nat),
    t ∈ (refreshHostsGo now l hd).timers → t ∈ hd.timers ∨ RefreshTimer hd.cache t
  | [], _, _, h => Or.inl h
  | hst :: rest, hd, t, h => by
    unfold refreshHostsGo at h
    rcases refreshHostsGo_timers now rest _ t h with h | h
    · rcases List.mem_append.mp h with h | h
      · exact Or.inl h
      · exact Or.inr (.of_get .addr (refreshEntries_timers now _ t h))
    · refine Or.inr (RefreshTimer.low ?_ h)
      exact tables_intro (T := fun sl => TableLow (hd.cache.table sl)) (.refl _) (.refl _) (.refl _)
        (TableLow.modify _ _ _ (listLow_refreshEntries now)) (.refl _)

theorem refreshType_timers (now : Nat) (c : Cache) (ty : BList) : ∀ t ∈ (refreshType c now ty).2.2, RefreshTimer c t := by
  have l1 := (cacheLow_phases c now).refreshPtr c ty (.refl c)
  have l2 := (cacheLow_phases c now).refreshSrvTxt _ ty l1
  intro t ht
  simp only [refreshType, List.mem_append] at ht
  rcases ht with (ht | ht) | ht
  · unfold refreshDuePtr at ht
    split at ht
    · cases ht
    · rename_i es hes
      exact .of_get .ptr (k := ty) (by rw [Cache.table, hes]; exact refreshEntries_timers now es t ht)
  · exact ((refreshSrvTxtGo_timers now _ _ t ht).resolve_left (fun h => nomatch h)).low l1
  · exact ((refreshHostsGo_timers now _ { cache := _, due := [], timers := [] } t ht).resolve_left
      (fun h => nomatch h)).low l2

theorem refreshTypes_timers (now : Nat) : ∀ (l : List BList) (c : Cache), ∀ t ∈ (refreshTypes c now l).2.2, RefreshTimer c t
  | [], _ => fun _ h => nomatch h
  | ty :: rest, c => by
    intro t ht
    simp only [refreshTypes, List.mem_append] at ht
    rcases ht with ht | ht
    · exact refreshType_timers now c ty t ht
    · refine (refreshTypes_timers now rest _ t ht).low ?_
      simp only [refreshType]
      exact (cacheLow_phases c now).refreshHosts _ ty ((cacheLow_phases c now).refreshSrvTxt _ ty
        ((cacheLow_phases c now).refreshPtr c ty (.refl c)))

theorem step_refreshActive (s : State) (hO : ∀ t, RefreshTimer s.cache t → OK t) :
    Step now cmds KeyOK OK s (refreshActive s now).1 := by
  unfold refreshActive
  simp only []
  refine Step.trans (b := { s with cache := (refreshTypes s.cache now (activeTypes s)).1 })
    (Step.same rfl rfl rfl rfl rfl) (step_addTimers _ _ ?_)
  intro t ht
  exact hO t (refreshTypes_timers now _ _ t (List.mem_eraseDups.mp ht))

theorem step_refreshResolvers (s : State) : Step now cmds KeyOK OK s (refreshResolvers s now).1 :=
  Step.same rfl rfl rfl rfl rfl

theorem step_evictServicesPhase (s : State) : Step now cmds KeyOK OK s (evictServicesPhase s now).1 :=
  Step.same rfl rfl rfl rfl rfl

theorem step_evictAddrHosts (items : List (BList × BList × BList × Nat)) (hO : OK (now + 500)) (hk : KeyOK none) :
    ∀ (hosts : List BList) (s : State), Step now cmds KeyOK OK s (evictAddrHosts s now items hosts).1
  | [], s => Step.refl s
  | h :: rest, s => by
    simp only [evictAddrHosts]
    exact (step_resolveUpdated s _ hO hk).trans (step_evictAddrHosts items hO hk rest _)

theorem step_evictAddrPhase (s : State) (hO : OK (now + 500)) (hk : KeyOK none) :
    Step now cmds KeyOK OK s (evictAddrPhase s now).1 := by
  unfold evictAddrPhase
  exact Step.trans (b := { s with cache := (evictAddr s.cache now).1 })
    (Step.same rfl rfl rfl rfl rfl) (step_evictAddrHosts _ hO hk _ _)

end Mdns.Client
