import Mdns.Model.Shutdown
/-
  The command loop of the shutdown model one command at a time (`process_cons`), what a single
  command cannot emit (`exec_count_threadEnds`), and a list fact for the outputs of the clean-up.
-/
namespace Mdns.Shutdown

theorem process_cons (s : QState) (c : QCmd) (rest : List QCmd) (hc : ∀ ch, c ≠ .exit ch) :
    process s (c :: rest) = ((process (exec s c).1 rest).1, (exec s c).2 ++ (process (exec s c).1 rest).2) := by
  cases c with
  | exit ch => exact absurd rfl (hc ch)
  | _ => rfl

theorem exec_count_threadEnds (s : QState) (c : QCmd) : (exec s c).2.count .threadEnds = 0 := by
  cases c with
  | unregister name ch =>
    rw [exec]
    split <;> rfl
  | _ => rfl

theorem infix_flatMap {α β} (f : α → List β) {c : α} {l : List α} (hc : c ∈ l) : f c <:+: l.flatMap f := by
  obtain ⟨l1, l2, rfl⟩ := List.append_of_mem hc
  exact ⟨l1.flatMap f, l2.flatMap f, by simp only [List.flatMap_append, List.flatMap_cons, List.append_assoc]⟩

end Mdns.Shutdown
