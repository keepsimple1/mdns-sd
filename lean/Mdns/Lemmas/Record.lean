import Mdns.Model.Record
/-
  The refresh marks as percentages of a lifetime (`expTime` is monotone, and injective for a TTL of
  at least a second), `refresh_maybe` simulated by the specification `specRun` (`OnSchedule`,
  `runRefresh_spec`), consequences of that specification, and `matches` / `update_ttl` in closed form.
-/
namespace Mdns.Rec
open Record

/-- The record `r` follows the schedule of a copy received at `t` with `ttl` seconds and
    has made `k` re-queries: its `refresh` field is the mark number `k`. -/
structure OnSchedule (r : Record) (t ttl k : Nat) : Prop where
  created : r.created = t
  ttl_eq : r.ttl = ttl
  expires : r.expires = t + 1000 * ttl
  refresh : r.refresh = markAt t ttl k
  k_le : k ≤ 4

theorem expTime_le (t ttl : Nat) {p q : Nat} (h : p ≤ q) : expTime t ttl p ≤ expTime t ttl q :=
  Nat.add_le_add_left (Nat.mul_le_mul_right 10 (Nat.mul_le_mul_left ttl h)) t

theorem expTime_lt_iff (t : Nat) {ttl : Nat} (httl : 1 ≤ ttl) {p q : Nat} :
    expTime t ttl p < expTime t ttl q ↔ p < q := by
  simp only [expTime, Nat.add_lt_add_iff_left, Nat.mul_lt_mul_right (Nat.zero_lt_succ 9), Nat.mul_lt_mul_left httl]

theorem expTime_inj (t : Nat) {ttl : Nat} (httl : 1 ≤ ttl) {p q : Nat} :
    expTime t ttl p = expTime t ttl q ↔ p = q := by
  simp only [expTime, Nat.add_left_cancel_iff, Nat.mul_right_cancel_iff (Nat.zero_lt_succ 9), Nat.mul_left_cancel_iff httl]

theorem expTime_eq (t ttl p : Nat) : expTime t ttl p = t + 10 * p * ttl := by
  rw [expTime, Nat.mul_comm ttl p, Nat.mul_comm (p * ttl) 10, Nat.mul_assoc]

theorem expTime_hundred (t ttl : Nat) : expTime t ttl 100 = t + 1000 * ttl :=
  expTime_eq t ttl 100

theorem markPct_eq : ∀ k, markPct k = 80 + 5 * min k 4
  | 0 | 1 | 2 | 3 => rfl
  | k + 4 => by rw [Nat.min_eq_right (Nat.le_add_left 4 k)]; rfl

theorem markAt_mono (t ttl : Nat) {j k : Nat} (h : j ≤ k) : markAt t ttl j ≤ markAt t ttl k :=
  expTime_le t ttl (by rw [markPct_eq, markPct_eq]; omega)

theorem markAt_four (t ttl k : Nat) (h : 4 ≤ k) : markAt t ttl k = t + 1000 * ttl := by
  rw [markAt, markPct_eq, Nat.min_eq_right h]
  exact expTime_hundred t ttl

theorem markAt_lt (t : Nat) {ttl j k : Nat} (httl : 1 ≤ ttl) (hjk : j < k) (hj : j < 4) : markAt t ttl j < markAt t ttl k :=
  (expTime_lt_iff t httl).mpr (by rw [markPct_eq, markPct_eq]; omega)

theorem markAt_lt_succ (t ttl k : Nat) (hk : k < 4) (httl : 1 ≤ ttl) : markAt t ttl k < markAt t ttl (k + 1) :=
  markAt_lt t httl (Nat.lt_succ_self k) hk

theorem new_onSchedule (name : BList) (ty cls : Nat) (flush : Bool) (ttl : Nat) (rd : RData) (t : Nat) :
    OnSchedule (Record.new name ty cls flush ttl rd t) t ttl 0 :=
  ⟨rfl, rfl, expTime_hundred t ttl, rfl, Nat.zero_le 4⟩

theorem specFires_iff (t ttl k now : Nat) :
    specFires t ttl k now = true ↔ now < t + 1000 * ttl ∧ k < 4 ∧ markAt t ttl k ≤ now := by
  simp only [specFires, Bool.and_eq_true, decide_eq_true_eq, and_assoc]

theorem specFires_at_mark (t : Nat) {ttl k : Nat} (hk : k < 4) (httl : 1 ≤ ttl) :
    specFires t ttl k (markAt t ttl k) = true :=
  (specFires_iff t ttl k _).mpr ⟨markAt_four t ttl 4 (Nat.le_refl 4) ▸ markAt_lt t httl hk hk, hk, Nat.le_refl _⟩

theorem specFires_of_lt_mark {t ttl k now : Nat} (h : now < markAt t ttl k) : specFires t ttl k now = false :=
  Bool.eq_false_iff.mpr fun hf => Nat.lt_irrefl now (Nat.lt_of_lt_of_le h ((specFires_iff t ttl k now).mp hf).2.2)

theorem specFires_four (t ttl now : Nat) : specFires t ttl 4 now = false :=
  Bool.eq_false_iff.mpr fun hf => Nat.lt_irrefl 4 ((specFires_iff t ttl 4 now).mp hf).2.1

theorem fires_eq_spec {r : Record} {t ttl k : Nat} (h : OnSchedule r t ttl k) (now : Nat) :
    r.refreshFires now = specFires t ttl k now := by
  rw [Bool.eq_iff_iff, specFires_iff]
  simp only [refreshFires, isExpired, refreshDue, h.expires, h.refresh, Bool.and_eq_true, Bool.not_eq_true',
    decide_eq_true_eq, decide_eq_false_iff_not]
  have := markAt_four t ttl k
  omega

/-- The marks are told apart by comparing times, which `expTime_inj` turns into comparing percentages. -/
theorem refreshNext_eq {r : Record} {t ttl k : Nat} (h : OnSchedule r t ttl k) (hk : k < 4) (httl : 1 ≤ ttl) :
    r.refreshNext = markAt t ttl (k + 1) := by
  unfold refreshNext
  simp only [h.refresh, h.created, h.ttl_eq, markAt, expTime_inj t httl]
  match k, hk with
  | 0, _ | 1, _ | 2, _ | 3, _ => rfl

theorem refreshed_onSchedule {r : Record} {t ttl k : Nat} (h : OnSchedule r t ttl k) (httl : 1 ≤ ttl) (now : Nat) :
    OnSchedule (r.refreshed now) t ttl (if specFires t ttl k now then k + 1 else k) := by
  unfold refreshed
  rw [fires_eq_spec h now]
  split
  · next hf =>
    have hk := ((specFires_iff t ttl k now).mp hf).2.1
    exact ⟨h.created, h.ttl_eq, h.expires, refreshNext_eq h hk httl, hk⟩
  · exact h

/-- number of re-queries in a list of answers -/
def fired (answers : List Bool) : Nat := answers.count true

theorem add_fired_cons (k : Nat) (b : Bool) (l : List Bool) :
    k + fired (b :: l) = (if b = true then k + 1 else k) + fired l := by
  cases b
  · rfl
  · simp only [fired, List.count_cons_self, if_true]
    omega

theorem runRefresh_spec (times : List Nat) : ∀ {r : Record} {t ttl k : Nat}, OnSchedule r t ttl k → 1 ≤ ttl →
    (runRefresh r times).1 = specRun t ttl k times ∧
    OnSchedule (runRefresh r times).2 t ttl (k + fired (specRun t ttl k times)) := by
  induction times with
  | nil => intro r t ttl k h _; exact ⟨rfl, h⟩
  | cons now rest ih =>
    intro r t ttl k h httl
    obtain ⟨ih1, ih2⟩ := ih (refreshed_onSchedule h httl now) httl
    rw [specRun, add_fired_cons]
    exact ⟨congr (congrArg _ (fires_eq_spec h now)) ih1, ih2⟩

theorem refreshFires_of_expires_le {r : Record} (h : r.expires ≤ r.refresh) (now : Nat) : r.refreshFires now = false := by
  simp only [refreshFires, isExpired, refreshDue, Bool.and_eq_false_iff, Bool.not_eq_false', decide_eq_true_eq,
    decide_eq_false_iff_not]
  omega

theorem runRefresh_of_expires_le {r : Record} (h : r.expires ≤ r.refresh) :
    ∀ times, runRefresh r times = (List.replicate times.length false, r)
  | [] => rfl
  | now :: rest => by
    have hf := refreshFires_of_expires_le h now
    rw [runRefresh, refreshed, hf, if_neg Bool.false_ne_true, runRefresh_of_expires_le h rest]
    rfl

theorem specRun_length (t ttl : Nat) (times : List Nat) : ∀ k, (specRun t ttl k times).length = times.length := by
  induction times with
  | nil => intro k; rfl
  | cons now rest ih => intro k; simp [specRun, ih]

def paired (times : List Nat) (answers : List Bool) : List (Nat × Bool) := times.zip answers

theorem specRun_before_expiry (t ttl : Nat) (times : List Nat) : ∀ k, ∀ p ∈ paired times (specRun t ttl k times),
    p.2 = true → p.1 < t + 1000 * ttl := by
  induction times with
  | nil => intro k p hp; cases hp
  | cons now rest ih =>
    intro k p hp h2
    rcases List.mem_cons.mp hp with rfl | hp
    · exact ((specFires_iff t ttl k now).mp h2).1
    · exact ih _ p hp h2

/-- re-queries made at observation times before the mark number `j` -/
def firedBefore (t ttl j : Nat) (ps : List (Nat × Bool)) : Nat :=
  (ps.filter fun p => p.2 && decide (p.1 < markAt t ttl j)).length

theorem firedBefore_cons (t ttl j now : Nat) (b : Bool) (ps : List (Nat × Bool)) :
    firedBefore t ttl j ((now, b) :: ps) =
      (if b = true ∧ now < markAt t ttl j then 1 else 0) + firedBefore t ttl j ps := by
  simp only [firedBefore, List.filter_cons, Bool.and_eq_true, decide_eq_true_eq]
  split
  · exact Nat.add_comm _ 1
  · exact (Nat.zero_add _).symm

/-- A re-query answered with `k` made so far happens at or after the mark number `k`, so it is counted
    before the mark number `j` only if `k < j`; the later ones have `k + 1` made so far. -/
theorem specRun_one_per_mark (t ttl j : Nat) (times : List Nat) : ∀ k,
    firedBefore t ttl j (paired times (specRun t ttl k times)) ≤ j - k := by
  induction times with
  | nil => intro k; exact Nat.zero_le _
  | cons now rest ih =>
    intro k
    have ih' := ih (if specFires t ttl k now then k + 1 else k)
    rw [specRun, paired, List.zip_cons_cons, firedBefore_cons]
    rw [paired] at ih'
    cases hf : specFires t ttl k now
    · rw [hf] at ih'
      simpa using ih'
    · rw [hf, if_pos rfl] at ih'
      have hm := ((specFires_iff t ttl k now).mp hf).2.2
      split
      · next hlt =>
        have hkj : k < j := Nat.lt_of_not_le fun h =>
          Nat.lt_irrefl now (Nat.lt_of_lt_of_le hlt.2 (Nat.le_trans (markAt_mono t ttl h) hm))
        rw [if_pos rfl]
        omega
      · rw [if_pos rfl]
        omega

/-- an observation in the window where the first re-query is due: at or after 80 %, before expiry -/
def inWindow (t ttl now : Nat) : Prop := markAt t ttl 0 ≤ now ∧ now < t + 1000 * ttl

theorem specFires_zero (t ttl now : Nat) : specFires t ttl 0 now = true ↔ inWindow t ttl now := by
  rw [specFires_iff, inWindow]
  exact ⟨fun h => ⟨h.2.2, h.1⟩, fun h => ⟨h.2, Nat.zero_lt_succ 3, h.1⟩⟩

theorem specRun_first (t ttl : Nat) (pre : List Nat) (now : Nat) (post : List Nat)
    (hpre : ∀ x ∈ pre, ¬ inWindow t ttl x) (hnow : inWindow t ttl now) :
    specRun t ttl 0 (pre ++ now :: post) = List.replicate pre.length false ++ true :: specRun t ttl 1 post := by
  induction pre with
  | nil =>
    have h := (specFires_zero t ttl now).mpr hnow
    rw [List.nil_append, specRun, h]
    rfl
  | cons x pre ih =>
    have hx : specFires t ttl 0 x = false := by
      rw [← Bool.not_eq_true, specFires_zero]
      exact hpre x List.mem_cons_self
    rw [List.cons_append, specRun, hx, if_neg Bool.false_ne_true, ih fun y hy => hpre y (List.mem_cons_of_mem _ hy)]
    rfl

theorem matchesRec_iff (a b : Record) :
    a.matchesRec b = true ↔ a.name = b.name ∧ a.ty = b.ty ∧ a.cls = b.cls ∧ a.flush = b.flush ∧ a.rdata = b.rdata := by
  simp only [matchesRec, entryEq, Bool.and_eq_true, beq_iff_eq, and_assoc]
  constructor
  · rintro ⟨h, h1, h2, h3, h4⟩; exact ⟨h1, h2, h3, h4, h⟩
  · rintro ⟨h1, h2, h3, h4, h⟩; exact ⟨h, h1, h2, h3, h4⟩

theorem matchesRec_comm (a b : Record) : a.matchesRec b = b.matchesRec a := by
  rw [Bool.eq_iff_iff, matchesRec_iff, matchesRec_iff]
  constructor <;> (rintro ⟨h1, h2, h3, h4, h5⟩; exact ⟨h1.symm, h2.symm, h3.symm, h4.symm, h5.symm⟩)

theorem sameRecord_iff (a b : Record) :
    a.sameRecord b = true ↔ lower a.name = lower b.name ∧ a.ty = b.ty ∧ a.cls = b.cls ∧ a.rdata.wire = b.rdata.wire := by
  simp [sameRecord, and_assoc]

theorem halflifePassed_eq_false_iff (r : Record) (now : Nat) :
    r.halflifePassed now = false ↔ now ≤ r.created + 500 * r.ttl := by
  rw [halflifePassed, decide_eq_false_iff_not, Nat.not_lt, expTime_eq]

/-- `update_ttl` in one piece, for times at which `as u32` does not truncate: the whole seconds since
    creation are taken off the TTL, and more of them than the TTL is the underflow. -/
theorem updateTtl_eq (r : Record) (now : Nat) (h32 : (now - r.created) / 1000 < 4294967296) :
    r.updateTtl now =
      if r.ttl < (now - r.created) / 1000 then .panic else .ok { r with ttl := r.ttl - (now - r.created) / 1000 } := by
  rw [updateTtl, elapsedSecs, Nat.mod_eq_of_lt h32]
  split
  · rfl
  · next h =>
    rw [Nat.sub_eq_zero_of_le (Nat.le_of_not_gt h), Nat.zero_div, if_neg (Nat.not_lt_zero _)]
    rfl

end Mdns.Rec
