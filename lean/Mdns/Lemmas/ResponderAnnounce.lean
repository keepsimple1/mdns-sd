import Mdns.Lemmas.ResponderRegister
/-
  The two announcements inside the loop: a registered service stays registered (same data) and
  is not `Announced` while one of its unique records is inactive; in the iteration in which its
  probes end it is announced; one second later `RegisterResend` announces it again.
-/
namespace Mdns.Responder
open Mdns

theorem UpToStatus.announce {u svc : Service} (h : UpToStatus u svc) (t : BList) (recs : List RR) :
    announcePkt u t recs = announcePkt svc t recs := by obtain ⟨st, rfl⟩ := h; rfl

theorem iter_idle_entry (s : State) (now j : Nat) (key : BList) (svc : Service) (h : Entry s key svc) :
    Entry (iter s (idle now j)).1 key svc := by
  cases hs : s.stopped with
  | false =>
    rw [iter_idle s now j hs]
    exact h.le (loopTail_svcLe { s with timers := s.timers.filter (· > now) } now j)
  | true =>
    rw [iter_stopped _ hs]
    exact h

/-! ### the invariant over idle runs -/

theorem idle_plain (now j : Nat) : (idle now j).plain := ⟨fun _ h => by simp [idle] at h, fun _ h => by simp [idle] at h⟩

theorem idleRun_ind {P : State → Prop} (j : Nat) (ts : List Nat) (hstep : ∀ s, ∀ t ∈ ts, P s → P (iter s (idle t j)).1)
    (s : State) (h : P s) : P (idleRun j s ts).1 := by
  induction ts generalizing s with
  | nil => exact h
  | cons t ts ih =>
    exact ih (fun s x hx => hstep s x (List.mem_cons_of_mem _ hx)) _ (hstep s t List.mem_cons_self h)

theorem idleRun_inv (j : Nat) (ts : List Nat) (s : State) (h : Inv s) : Inv (idleRun j s ts).1 :=
  idleRun_ind j ts (fun s t _ h => iter_inv s (idle t j) h (idle_plain t j)) s h

theorem isActive_of_act {r r0 : Registry} {a : RR} (h : alookup a.getName r.active = alookup a.getName r0.active) :
    r.isActive a = r0.isActive a := by
  simp [Registry.isActive, h]

/-- A registered service that requires probing is NOT `Announced` on the interface while a
    record that belongs to its unique records of BOTH families (SRV or TXT) is inactive there:
    the contrapositive of the invariant `SvcSound`. -/
theorem not_announced_of_inactive {s : State} {i : MyIntf} {l1 l2 : List MyIntf} (hinv : Inv s) (hi : IntfsOk s i l1 l2)
    {key : BList} {u svc : Service} (hu : alookup key s.services = some u) (hs : UpToStatus u svc) (hprobe : svc.probe = true)
    {a : RR} (ha : ∀ v, a ∈ uniqueRecords svc i (s.registry i.index) v) (hin : (s.registry i.index).isActive a = false) :
    u.announcedOn i.index = false := by
  cases hann : u.announcedOn i.index with
  | false => rfl
  | true =>
    obtain ⟨i', hi', hidx, v4, _, hall⟩ := hinv.sound _ (alookup_mem hu) (hs.probe.trans hprobe) i.index hann
    have := hi.unique hi' hidx
    subst this
    have := hall a (by rw [hs.uniq]; exact ha v4)
    rw [hin] at this
    cases this

/-! ### the iteration in which the probes end: the first announcement -/

theorem wakeService_services_other (now j : Nat) (i : MyIntf) (acc : State × List Out) (name key : BList)
    (h : key ≠ lower name) : alookup key (wakeService now j i acc name).1.services = alookup key acc.1.services := by
  rcases wakeService_cases now j i acc name with e | ⟨svc, _, _, e | ⟨_, e⟩⟩ <;> rw [e]
  · rfl
  · exact alookup_aset_ne _ _ _ _ h

/-- what has happened once the service was announced in this `probing_handler` step (nothing to do
    with `Probe.Sent`, which counts the queries one probe has sent) -/
structure Sent (acc : State × List Out) (i : MyIntf) (svc : Service) (v4 : Bool) (U : List RR) (now : Nat) : Prop where
  packet : Out.send i.index v4 none (announcePkt svc svc.fullname U) ∈ acc.2
  status : Announced acc.1 (lower svc.fullname) svc i.index
  rerun : ReRun.registerResend (now + 1000) svc.fullname i.index ∈ acc.1.reruns

theorem Sent.mono {acc acc' : State × List Out} {i : MyIntf} {svc : Service} {v4 : Bool} {U : List RR} {now : Nat}
    (h : Sent acc i svc v4 U now) (ho : ∀ o ∈ acc.2, o ∈ acc'.2) (hw : Woken now acc.1 acc'.1) : Sent acc' i svc v4 U now :=
  ⟨ho _ h.packet, h.status.le hw.services, hw.mem h.rerun⟩

/-- waking the waiting services announces the service: while it is pending (registered, not
    announced on `i`) and its name is still to come in the list of woken names, and its unique
    records `U` are active in the registry of `i` (which has no renames) -/
theorem foldl_wake_announces (now j : Nat) (i : MyIntf) (svc : Service) (v4 : Bool) (hne : addrsOn svc i v4 ≠ []) :
    ∀ (names : List BList) (acc : State × List Out),
      (acc.1.registry i.index).nameChanges = [] →
      (∀ a ∈ uniqueRecords svc i {} v4, (acc.1.registry i.index).isActive a = true) →
      (Sent acc i svc v4 (uniqueRecords svc i {} v4) now ∨
        (svc.fullname ∈ names ∧ ∃ u, alookup (lower svc.fullname) acc.1.services = some u ∧ UpToStatus u svc ∧
          u.announcedOn i.index = false)) →
      Sent (names.foldl (wakeService now j i) acc) i svc v4 (uniqueRecords svc i {} v4) now := by
  intro names
  induction names with
  | nil =>
    intro acc _ _ h
    rcases h with h | ⟨h, _⟩
    · exact h
    · simp at h
  | cons nm rest ih =>
    intro acc hnc hact h
    simp only [List.foldl_cons]
    have hle := (wakeService_stle now j i acc nm).2 i.index
    have hnc' : ((wakeService now j i acc nm).1.registry i.index).nameChanges = [] := hle.1.trans hnc
    have hact' : ∀ a ∈ uniqueRecords svc i {} v4, ((wakeService now j i acc nm).1.registry i.index).isActive a = true :=
      fun a ha => hle.2 a (hact a ha)
    apply ih _ hnc' hact'
    rcases h with h | ⟨hin, u, hu, hs, hnot⟩
    · exact Or.inl (h.mono (wakeService_mono now j i acc nm) (wakeService_woken now j i acc nm))
    · by_cases e : lower nm = lower svc.fullname
      · left
        have huniq : uniqueRecords u i (acc.1.registry i.index) v4 = uniqueRecords svc i {} v4 := by
          rw [hs.uniq]
          exact uniqueRecords_congr (r := {}) (r' := acc.1.registry i.index) hnc svc i v4
        have hres : (acc.1.registry i.index).resolveName u.fullname = svc.fullname := by
          simp [Registry.resolveName, hnc, alookup, hs.full]
        obtain ⟨hp, ⟨u', hu', ha'⟩, hr, _, _⟩ := wakeService_announces now j i acc nm u v4 (by rw [e]; exact hu) hnot
          (by rw [hs.addrs]; exact hne) (by rw [huniq]; exact hact)
        rw [huniq, hres, hs.announce] at hp
        refine ⟨hp, ⟨u', by rw [← e]; exact hu', ?_, ha'⟩, by rw [← hs.full]; exact hr⟩
        -- the stored entry is the old one with a status changed
        obtain ⟨u'', hu'', hs'', _⟩ := (wakeService_woken now j i acc nm).services _ u hu
        rw [← e, hu'] at hu''
        cases hu''
        exact hs''.trans hs
      · right
        have hnm : nm ≠ svc.fullname := fun x => e (by rw [x])
        refine ⟨?_, u, ?_, hs, hnot⟩
        · rcases List.mem_cons.mp hin with h | h
          · exact absurd h.symm hnm
          · exact h
        · rw [wakeService_services_other now j i acc nm _ (fun x => e x.symm)]
          exact hu

/-- the SRV record of a service (a unique record in both families: `srvOf_mem`) -/
def srvOf (svc : Service) : RR :=
  { name := svc.fullname, ty := TYPE_SRV, flush := true, ttl := TTL_HOST, rdata := .srv 0 0 svc.port svc.host }

theorem srvOf_mem (svc : Service) (i : MyIntf) (v : Bool) : srvOf svc ∈ uniqueRecords svc i {} v := by
  unfold uniqueRecords srvOf
  simp [Registry.resolveName, alookup, withChange]

/-- the probes of all unique records of the family end at `now` in registry `r`, each with a
    matching record and the service among the waiting ones -/
def Ending (r : Registry) (svc : Service) (i : MyIntf) (v4 : Bool) (now : Nat) : Prop :=
  ∀ a ∈ uniqueRecords svc i {} v4, ∃ p b, alookup a.getName r.probing = some p ∧
    p.action now = .expire ∧ b ∈ p.records ∧ b.getName = a.getName ∧ a.matchesRR b = true ∧ svc.fullname ∈ p.waiting

/-- the step of `probing_handler` for interface `i` in which the probes of ALL unique records of
    a pending service end: the service is announced -/
theorem probingOnIntf_announces (now j : Nat) (acc : State × List Out) (i : MyIntf) (svc u : Service) (v4 : Bool)
    (hnr : NoRen (acc.1.registry i.index))
    (hu : alookup (lower svc.fullname) acc.1.services = some u) (hs : UpToStatus u svc) (hnot : u.announcedOn i.index = false)
    (hne : addrsOn svc i v4 ≠ []) (hrecs : Ending (acc.1.registry i.index) svc i v4 now) :
    Sent (probingOnIntf now j acc i) i svc v4 (uniqueRecords svc i {} v4) now := by
  cases hreg : alookup i.index acc.1.registries with
  | none =>
    exfalso
    obtain ⟨p, _, hp, _⟩ := hrecs _ (srvOf_mem svc i v4)
    rw [registry_of_none hreg] at hp
    cases hp
  | some r =>
    rw [registry_of_lookup hreg] at hnr hrecs
    have hcpn := checkProbing_noRen hnr now
    -- the probe of every unique record is among the expired ones, with its records and waiting services
    have hend : ∀ a ∈ uniqueRecords svc i {} v4, ∃ (p : Probe) (b : RR), a.getName ∈ (checkProbing r now).expired ∧
        alookup a.getName (checkProbing r now).reg.probing = some (p.step now) ∧
        b ∈ (p.step now).records ∧ b.getName = a.getName ∧ a.matchesRR b = true ∧ svc.fullname ∈ (p.step now).waiting := by
      intro a ha
      obtain ⟨p, b, hp, hexp, hb, hbn, hm, hw⟩ := hrecs a ha
      refine ⟨p, b, ?_, ?_, by rw [Probe.step_records]; exact hb, hbn, hm, by unfold Probe.step; split <;> exact hw⟩
      · simp only [checkProbing, List.mem_map, List.mem_filter]
        exact ⟨(a.getName, p), ⟨alookup_mem hp, by simp [hexp]⟩, rfl⟩
      · rw [checkProbing_probing, alookup_mapVal a.getName (fun _ p => Probe.step p now) r.probing, hp]
        rfl
    rw [probingOnIntf_some hreg]
    -- arming the `new_timers` touches neither outputs nor services nor re-runs
    have hdrain : ∀ (x : State × List Out), Sent x i svc v4 (uniqueRecords svc i {} v4) now →
        Sent (drainNewTimers i.index x) i svc v4 (uniqueRecords svc i {} v4) now :=
      fun x hx => ⟨hx.packet, hx.status, hx.rerun⟩
    apply hdrain
    apply foldl_wake_announces now j i svc v4 hne
    · rw [probed_registry_self]
      exact (handleExpiredProbes_spec (checkProbing r now).expired i.name (checkProbing r now).reg hcpn).1.1
    · -- every unique record is active after the probes were moved
      rw [probed_registry_self]
      intro a ha
      obtain ⟨p, b, hin, hl', hb, hbn, hm, _⟩ := hend a ha
      exact isActive_of_matches _ a b hm hbn.symm ((foldl_expire_activates i.name a.getName (p.step now)
        (checkProbing r now).expired ((checkProbing r now).reg, [], []) hin hl' hcpn).1 b hb hbn)
    · -- the service is among the woken ones
      obtain ⟨p, b, hin, hl', hb, _, _, hw⟩ := hend _ (srvOf_mem svc i v4)
      exact Or.inr ⟨(foldl_expire_activates i.name (srvOf svc).getName (p.step now) (checkProbing r now).expired
        ((checkProbing r now).reg, [], []) hin hl' hcpn).2 (List.ne_nil_of_mem hb) _ hw, u, hu, hs, hnot⟩

/-- `probing_handler` in the iteration in which the probes of all unique records of a registered,
    not yet announced service end on interface `i`: the service is announced there -/
theorem probingHandler_announces (s : State) (now j : Nat) (i : MyIntf) (l1 l2 : List MyIntf) (hi : IntfsOk s i l1 l2)
    (svc : Service) (v4 : Bool) (hinv : Inv s) (hent : Entry s (lower svc.fullname) svc) (hprobe : svc.probe = true)
    (hne : addrsOn svc i v4 ≠ [])
    (a0 : RR) (ha0 : ∀ v, a0 ∈ uniqueRecords svc i (s.registry i.index) v) (hin0 : (s.registry i.index).isActive a0 = false)
    (hrecs : Ending (s.registry i.index) svc i v4 now) :
    Sent (probingHandler s now j) i svc v4 (uniqueRecords svc i {} v4) now := by
  unfold probingHandler
  rw [hi.split, List.foldl_append, List.foldl_cons]
  have h1 := foldl_inv (fun (a : State × List Out) => a.1.registry i.index = s.registry i.index ∧ Inv a.1 ∧
      a.1.intfs = s.intfs ∧ Entry a.1 (lower svc.fullname) svc)
    (probingOnIntf now j) l1 (s, []) ⟨rfl, hinv, rfl, hent⟩
    (fun a i' hi' ha => by
      have hne' : i'.index ≠ i.index := hi.other i' (List.mem_append.mpr (Or.inl hi'))
      have hmem : i' ∈ a.1.intfs := by rw [ha.2.2.1, hi.split]; exact List.mem_append.mpr (Or.inl hi')
      obtain ⟨hinv', hintfs'⟩ := probingOnIntf_inv now j a i' hmem ha.2.1
      exact ⟨(probingOnIntf_registry_other now j a i' i.index hne').trans ha.1, hinv', hintfs'.trans ha.2.2.1,
        ha.2.2.2.le (probingOnIntf_woken now j a i').services⟩)
  obtain ⟨hr1, hinv1, hintfs1, ⟨u, hu, hs⟩⟩ := h1
  have hi1 : IntfsOk (l1.foldl (probingOnIntf now j) (s, [])).1 i l1 l2 := hi.congr hintfs1
  have hnot : u.announcedOn i.index = false :=
    not_announced_of_inactive hinv1 hi1 hu hs hprobe (by rw [hr1]; exact ha0) (by rw [hr1]; exact hin0)
  have h2 := probingOnIntf_announces now j (l1.foldl (probingOnIntf now j) (s, [])) i svc u v4
    (by rw [hr1]; exact hinv.noRen i.index) hu hs hnot hne (by rw [hr1]; exact hrecs)
  exact foldl_inv (fun (a : State × List Out) => Sent a i svc v4 (uniqueRecords svc i {} v4) now) (probingOnIntf now j) l2 _ h2
    (fun a i' _ ha => ha.mono (probingOnIntf_mono now j a i') (probingOnIntf_woken now j a i'))

/-! ### the first announcement through `iter` -/

/-- every unique record of the family is being probed, fresh enough to end at `T + 750`:
    for each there is a watched probe (a `Good` bundle) holding a matching record and the
    service among the waiting ones, and the record was not active when its probe began -/
def AllProbed (s : State) (i : MyIntf) (l1 l2 : List MyIntf) (svc : Service) (v4 : Bool) (T nx : Nat) : Prop :=
  ∀ a ∈ uniqueRecords svc i {} v4, ∃ b A, a.matchesRR b = true ∧ b.getName = a.getName ∧
    ((A.getD []).any (a.matchesRR ·)) = false ∧
    Good s i l1 l2 a.getName T nx ⟨[b], [svc.fullname], A⟩

theorem AllProbed.congr {s s' : State} {i : MyIntf} {l1 l2 : List MyIntf} {svc : Service} {v4 : Bool} {T nx : Nat}
    (h : AllProbed s i l1 l2 svc v4 T nx) (hst : s'.stopped = s.stopped) (hi : s'.intfs = s.intfs)
    (hr : s'.registries = s.registries) (hs : s'.services = s.services) (hrr : s'.reruns = s.reruns) :
    AllProbed s' i l1 l2 svc v4 T nx := by
  intro a ha
  obtain ⟨b, A, h1, h2, h3, hg⟩ := h a ha
  exact ⟨b, A, h1, h2, h3, hst ▸ hg.running, hg.intfs.congr hi, hg.watch.congr hr hs hi,
    fun t p k v hm => hg.reruns t p k v (hrr ▸ hm)⟩

/-- the loop after the commands at `T + 750`, when the probes of all unique records of a
    registered service (started at `T`, next send due at `T + 750`) end -/
theorem loopTail_announces (s : State) (i : MyIntf) (l1 l2 : List MyIntf) (svc : Service) (v4 : Bool) (T j : Nat)
    (hinv : Inv s) (hent : Entry s (lower svc.fullname) svc) (hprobe : svc.probe = true) (hne : addrsOn svc i v4 ≠ [])
    (hall : AllProbed s i l1 l2 svc v4 T (T + 750)) :
    Sent (loopTail s (T + 750) j) i svc v4 (uniqueRecords svc i {} v4) (T + 750) := by
  obtain ⟨b0, A0, _, _, hA0, hg0⟩ := hall _ (srvOf_mem svc i v4)
  obtain ⟨hw0, _, _⟩ := runReruns_keeps s (T + 750) j i.index (srvOf svc).getName T (T + 750) _ hg0.watch hg0.reruns
  have hi4 := (runReruns_frame s (T + 750) j).2.2.1
  have huq : ∀ v, uniqueRecords svc i ((runReruns s (T + 750) j).1.registry i.index) v = uniqueRecords svc i {} v :=
    fun v => uniqueRecords_congr (r := {}) hw0.noRen.1 svc i v
  have hin0 : ((runReruns s (T + 750) j).1.registry i.index).isActive (srvOf svc) = false := by
    unfold Registry.isActive
    rw [hw0.act]
    exact hA0
  have hrecs : Ending ((runReruns s (T + 750) j).1.registry i.index) svc i v4 (T + 750) := by
    intro a ha
    obtain ⟨b, A, hm, hbn, _, hg⟩ := hall a ha
    obtain ⟨hw, _, _⟩ := runReruns_keeps s (T + 750) j i.index a.getName T (T + 750) _ hg.watch hg.reruns
    obtain ⟨p, hp, hst, hnx, hrec, hwt⟩ := hw.probe
    refine ⟨p, b, hp, ?_, hrec b (by simp), hbn, hm, hwt _ (by simp)⟩
    rw [Probe.action_eq, hst, hnx]
    simp
  refine Sent.mono (probingHandler_announces (runReruns s (T + 750) j).1 (T + 750) j i l1 l2
    (hg0.intfs.congr hi4) svc v4 (runReruns_inv s (T + 750) j hinv).1
    (hent.le (runReruns_frame s (T + 750) j).1) hprobe hne _ (fun v => by rw [huq]; exact srvOf_mem svc i v) hin0 hrecs)
    (fun _ h => List.mem_append.mpr (Or.inr h))
    (Woken.of_eq (by rw [loopTail_fst, runIpCheck_services]) (by rw [loopTail_fst, (runIpCheck_registries _ _).2.2.2]))

/-- First announcement in the daemon: the idle iteration at `T + 750` - when the probes of all
    unique records of a registered service (started at `T`, next send due at `T + 750`) end -
    sends the announcement on interface `i` over the family, marks the service `Announced` and
    queues `RegisterResend` for `T + 1750`. -/
theorem iter_idle_announces (s : State) (i : MyIntf) (l1 l2 : List MyIntf) (svc : Service) (v4 : Bool) (T j : Nat)
    (hinv : Inv s) (hent : Entry s (lower svc.fullname) svc) (hprobe : svc.probe = true) (hne : addrsOn svc i v4 ≠ [])
    (hall : AllProbed s i l1 l2 svc v4 T (T + 750)) :
    Out.send i.index v4 none (announcePkt svc svc.fullname (uniqueRecords svc i {} v4)) ∈ (iter s (idle (T + 750) j)).2 ∧
    Announced (iter s (idle (T + 750) j)).1 (lower svc.fullname) svc i.index ∧
    ReRun.registerResend (T + 750 + 1000) svc.fullname i.index ∈ (iter s (idle (T + 750) j)).1.reruns := by
  obtain ⟨_, _, _, _, _, hg0⟩ := hall _ (srvOf_mem svc i v4)
  rw [iter_idle s (T + 750) j hg0.running]
  obtain ⟨h1, h2, h3⟩ := loopTail_announces { s with timers := s.timers.filter (· > T + 750) } i l1 l2 svc v4 T j
    (hinv.frame rfl rfl rfl) hent hprobe hne (hall.congr rfl rfl rfl rfl rfl)
  exact ⟨h1, h2, h3⟩

/-! ### from the first announcement to the second -/

theorem execRerun_mono (now j : Nat) (acc : State × List Out) (r : ReRun) (o : Out) (h : o ∈ acc.2) :
    o ∈ (execRerun now j acc r).2 := by
  unfold execRerun
  cases r <;> exact List.mem_append.mpr (Or.inl h)

/-- the daemon after the first announcement, before the second: runs, `i` there once, the
    invariant, the service `Announced` on `i`, and its `RegisterResend` for `t2` still queued -/
structure After (s : State) (i : MyIntf) (l1 l2 : List MyIntf) (svc : Service) (t2 : Nat) : Prop where
  running : s.stopped = false
  intfs : IntfsOk s i l1 l2
  inv : Inv s
  announced : Announced s (lower svc.fullname) svc i.index
  rerun : ReRun.registerResend t2 svc.fullname i.index ∈ s.reruns

theorem After.step {s : State} {i : MyIntf} {l1 l2 : List MyIntf} {svc : Service} {t2 : Nat} (h : After s i l1 l2 svc t2)
    (now j : Nat) (hlt : now < t2) : After (iter s (idle now j)).1 i l1 l2 svc t2 := by
  have hinv' := iter_inv s (idle now j) h.inv (idle_plain now j)
  rw [iter_idle s now j h.running] at hinv' ⊢
  obtain ⟨f1, f2⟩ := loopTail_frame { s with timers := s.timers.filter (· > now) } now j
  refine ⟨f2.trans h.running, h.intfs.congr f1, hinv', ?_, ?_⟩
  · exact h.announced.le (loopTail_svcLe { s with timers := s.timers.filter (· > now) } now j)
  · unfold loopTail
    rw [(runIpCheck_registries _ now).2.2.2]
    apply (probingHandler_woken _ now j).mem
    rw [(runReruns_frame _ now j).2.1]
    exact List.mem_filter.mpr ⟨h.rerun, by simpa [ReRun.next] using hlt⟩

theorem After.run {i : MyIntf} {l1 l2 : List MyIntf} {svc : Service} {t2 : Nat} (j : Nat) :
    ∀ (ts : List Nat) (s : State), After s i l1 l2 svc t2 → (∀ t ∈ ts, t < t2) → After (idleRun j s ts).1 i l1 l2 svc t2 :=
  fun ts s h hts => idleRun_ind (P := fun s => After s i l1 l2 svc t2) j ts (fun _ t ht h => h.step t j (hts t ht)) s h

/-! ### the second announcement through `iter` -/

/-- the announcement went out again on `i` over some family in which the service has an address -/
def SentAgain (outs : List Out) (i : MyIntf) (svc : Service) : Prop :=
  ∃ v4, addrsOn svc i v4 ≠ [] ∧
    Out.send i.index v4 none (announcePkt svc svc.fullname (uniqueRecords svc i {} v4)) ∈ outs

/-- executing the queued `RegisterResend` of an announced service (requires probing) sends the
    announcement again - the registry is there and has no renames by the invariant -/
theorem execRegisterResend_again (s : State) (now j : Nat) (i : MyIntf) (l1 l2 : List MyIntf) (svc : Service)
    (hinv : Inv s) (hi : IntfsOk s i l1 l2) (hprobe : svc.probe = true)
    (hann : Announced s (lower svc.fullname) svc i.index) :
    SentAgain (execRegisterResend s now j svc.fullname i.index).2 i svc := by
  obtain ⟨u, hu, hs, ha⟩ := hann
  have hsound := hinv.sound _ (alookup_mem hu)
  -- the registry of `i` is in the map: otherwise nothing could be active in it
  obtain ⟨i', hi', hidx, v0, _, hall0⟩ := hsound (hs.probe.trans hprobe) i.index ha
  have hii := hi.unique hi' hidx
  subst hii
  cases hreg : alookup i'.index s.registries with
  | none =>
    exfalso
    have hr := registry_of_none hreg
    have := hall0 _ (by rw [hr]; exact srvOf_mem u i' v0)
    rw [hr] at this
    simp [Registry.isActive, alookup] at this
  | some r0 =>
    obtain ⟨v4, hne, hsend⟩ := registerResend_announces s now j svc.fullname i' u r0 hu hreg hi.find
      (fun x hx hxi => hi.unique hx hxi) (hs.probe.trans hprobe) ha hsound
    have hnc : r0.nameChanges = [] := by
      have := (hinv.noRen i'.index).1
      rwa [registry_of_lookup hreg] at this
    refine ⟨v4, by rw [← hs.addrs]; exact hne, ?_⟩
    have huniq : uniqueRecords u i' r0 v4 = uniqueRecords svc i' {} v4 := by
      rw [hs.uniq]; exact uniqueRecords_congr (r := {}) hnc svc i' v4
    have hres : r0.resolveName u.fullname = svc.fullname := by
      simp [Registry.resolveName, hnc, alookup, hs.full]
    rw [huniq, hres, hs.announce] at hsend
    exact hsend

theorem foldl_rerun_again (now j : Nat) (i : MyIntf) (l1 l2 : List MyIntf) (svc : Service) (t2 : Nat) (hprobe : svc.probe = true) :
    ∀ (due : List ReRun) (acc : State × List Out), Inv acc.1 → IntfsOk acc.1 i l1 l2 →
      Announced acc.1 (lower svc.fullname) svc i.index →
      (SentAgain acc.2 i svc ∨ ReRun.registerResend t2 svc.fullname i.index ∈ due) →
      SentAgain (due.foldl (execRerun now j) acc).2 i svc := by
  intro due
  induction due with
  | nil =>
    intro acc _ _ _ h
    rcases h with h | h
    · exact h
    · simp at h
  | cons x rest ih =>
    intro acc hinv hi hann h
    simp only [List.foldl_cons]
    obtain ⟨hinv', hintfs'⟩ := execRerun_inv now j acc x hinv
    have hi' : IntfsOk (execRerun now j acc x).1 i l1 l2 := hi.congr hintfs'
    apply ih _ hinv' hi' (hann.le (execRerun_frame now j acc x).1)
    rcases h with ⟨v4, hne, hm⟩ | hin
    · exact Or.inl ⟨v4, hne, execRerun_mono now j acc x _ hm⟩
    · rcases List.mem_cons.mp hin with heq | hrest
      · left
        subst heq
        obtain ⟨v4, hne, hm⟩ := execRegisterResend_again acc.1 now j i l1 l2 svc hinv hi hprobe hann
        exact ⟨v4, hne, by unfold execRerun; exact List.mem_append.mpr (Or.inr hm)⟩
      · exact Or.inr hrest

/-- Second announcement in the daemon: the idle iteration at the time the queued `RegisterResend`
    is due (or any later one that still finds it) sends the announcement again. -/
theorem iter_idle_reannounces {s : State} {i : MyIntf} {l1 l2 : List MyIntf} {svc : Service} {t2 : Nat}
    (h : After s i l1 l2 svc t2) (hprobe : svc.probe = true) (now j : Nat) (hdue : now ≥ t2) :
    SentAgain (iter s (idle now j)).2 i svc := by
  rw [iter_idle s now j h.running]
  unfold loopTail
  have hinv2 : Inv ({ s with timers := s.timers.filter (· > now) } : State) := h.inv.frame rfl rfl rfl
  have h0 : Inv ({ ({ s with timers := s.timers.filter (· > now) } : State) with
      reruns := s.reruns.filter (fun r => !decide (now ≥ r.next)) } : State) := hinv2.frame rfl rfl rfl
  have := foldl_rerun_again now j i l1 l2 svc t2 hprobe (s.reruns.filter (fun r => decide (now ≥ r.next)))
    ({ ({ s with timers := s.timers.filter (· > now) } : State) with
        reruns := s.reruns.filter (fun r => !decide (now ≥ r.next)) }, []) h0 (h.intfs.congr rfl) h.announced
    (Or.inr (by
      simp only [List.mem_filter]
      exact ⟨h.rerun, by simp [ReRun.next]; omega⟩))
  obtain ⟨v4, hne, hm⟩ := this
  refine ⟨v4, hne, List.mem_append.mpr (Or.inl ?_)⟩
  unfold runReruns
  exact hm

/-! ### registration, and the idle runs between the steps of the life cycle -/

theorem idleRun_entry (j : Nat) (key : BList) (svc : Service) :
    ∀ (ts : List Nat) (s : State), Entry s key svc → Entry (idleRun j s ts).1 key svc :=
  fun ts => idleRun_ind j ts (fun s t _ h => iter_idle_entry s t j key svc h)

theorem idleRun_to_end (j : Nat) (i : MyIntf) (l1 l2 : List MyIntf) (n : BList) (T : Nat) (R : Cargo) (s : State)
    (h : Good s i l1 l2 n T T R) (hfam : ∃ v4, i.hasFamily v4 = true) (pre0 pre1 pre2 pre3 : List Nat)
    (h0 : ∀ t ∈ pre0, t < T) (h1 : ∀ t ∈ pre1, t < T + 250) (h2 : ∀ t ∈ pre2, t < T + 500) (h3 : ∀ t ∈ pre3, t < T + 750) :
    Good (idleRun j s ((pre0 ++ [T]) ++ ((pre1 ++ [T + 250]) ++ ((pre2 ++ [T + 500]) ++ pre3)))).1 i l1 l2 n T (T + 750) R := by
  have e500 : T + 500 = T + 250 + 250 := (Nat.add_assoc T 250 250).symm
  have e750 : T + 750 = T + 250 + 250 + 250 :=
    ((Nat.add_assoc (T + 250) 250 250).trans (Nat.add_assoc T 250 (250 + 250))).symm
  rw [e500] at h2
  rw [e750] at h3
  rw [e500, e750, idleRun_append, idleRun_append, idleRun_append]
  obtain ⟨g1, _⟩ := idleRun_phase j i l1 l2 n T T R s pre0 h (Nat.lt_add_of_pos_right (by decide)) hfam h0
  obtain ⟨g2, _⟩ := idleRun_phase j i l1 l2 n T (T + 250) R _ pre1 g1 (Nat.add_lt_add_left (by decide) T) hfam h1
  obtain ⟨g3, _⟩ := idleRun_phase j i l1 l2 n T (T + 250 + 250) R _ pre2 g2
    (e500 ▸ (Nat.add_lt_add_left (by decide) T : T + 500 < T + 750)) hfam h2
  exact (idleRun_skip j i l1 l2 n T (T + 250 + 250 + 250) R pre3 _ g3 h3).1

theorem sendUnsolicited_upToStatus (s : State) (svc : Service) (now j : Nat) : UpToStatus (sendUnsolicited s svc now j).svc svc :=
  (foldl_unsolOnIntf_spec now j s.intfs { state := s, svc := svc }).2.2.2.2.2.1 svc (UpToStatus.refl svc)

theorem registration_entry (s : State) (svc : Service) (now j : Nat) (hrun : s.stopped = false)
    (hlen : Names.checkServiceNameLength svc.ty s.nameLenMax = .ok ()) (hauto : svc.addrAuto = false) :
    Entry (iter s { now := now, jitter := j, cmds := [.register svc] }).1 (lower svc.fullname) svc := by
  rw [congrArg Prod.fst (iter_register s svc now j hrun),
    registerService_eq { s with timers := s.timers.filter (· > now) } svc now j hlen hauto]
  refine Entry.le ?_ (loopTail_svcLe (registerChecked { s with timers := s.timers.filter (· > now) } svc now j).1 now j)
  exact ⟨_, alookup_aset_self _ _ _, sendUnsolicited_upToStatus _ svc now j⟩

end Mdns.Responder
