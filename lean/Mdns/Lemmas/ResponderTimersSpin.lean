import Mdns.Lemmas.ResponderTimersIter
/-
  C12 on the responder model, "never spins": after ANY iteration at `now` the only work left for
  that instant is the first query of probes created with jitter 0 (and stale `new_timers`); one
  further iteration at `now` without input does it, and from then on every timer lies after `now`.
-/
namespace Mdns.Responder
open Mdns

/-- no probe of the registry ends at `now` (each is idle or sends a query) -/
def NoExp (now : Nat) (r : Registry) : Prop := ∀ e ∈ r.probing, e.2.action now ≠ .expire

theorem action_expire_iff (p : Probe) (now : Nat) :
    p.action now = .expire ↔ now ≥ p.next ∧ now ≥ p.start + 750 ∧ p.next ≥ p.start + 750 := by
  rw [← Probe.expired_iff]
  unfold Probe.action
  split
  · rename_i h
    cases p.expired now <;> simp [h]
  · rename_i h
    simp [h]

theorem action_congr {p q : Probe} (hs : p.start = q.start) (hn : p.next = q.next) (now : Nat) : p.action now = q.action now := by
  unfold Probe.action Probe.expired
  rw [hs, hn]

theorem NoExp.empty (now : Nat) : NoExp now {} := fun _ h => by cases h

theorem probeInsert_noexp {now : Nat} {r : Registry} (h : NoExp now r) (a : RR) (n : BList) (j : Nat) :
    NoExp now (r.probeInsert a n (now + j)) := by
  intro e he
  simp only [Registry.probeInsert] at he
  rcases mem_aset he with rfl | hold
  · simp only []
    rw [Ne, action_expire_iff]
    rcases Probe.join_times ((alookup a.getName r.probing).getD (Probe.new (now + j))) a n (now + j) with ⟨h1, h2, _⟩ | ⟨h1, h2, _⟩
    · rw [h1, h2]
      cases hl : alookup a.getName r.probing with
      | none =>
        -- a probe created now starts at `now + j`: it is not 750 ms old at `now`
        simp only [Option.getD_none, Probe.new]
        have hyoung : ¬ now ≥ now + j + 750 := by omega
        exact fun h => hyoung h.2.1
      | some q =>
        simp only [Option.getD_some]
        have := h (a.getName, q) (alookup_mem hl)
        rw [Ne, action_expire_iff] at this
        exact this
    · -- the probe starts over at `now + j`: not 750 ms old either
      rw [h1, h2]
      have hyoung : ¬ now ≥ now + j + 750 := by omega
      exact fun h => hyoung h.2.1
  · exact h e hold

theorem announce_pair_noexp {now : Nat} {r : Registry} (h : NoExp now r) (s : Service) (i : MyIntf) (j : Nat) :
    NoExp now (announcePair s i r now j) :=
  announce_pair_ind s i now j h (fun _ a hx => probeInsert_noexp hx a _ j)

theorem checkProbing_noexp (r : Registry) (now : Nat) (intfName : BList) :
    NoExp now (handleExpiredProbes (checkProbing r now).expired intfName (checkProbing r now).reg).1 := by
  intro e he
  obtain ⟨p, _, hact, hstep⟩ := (checkProbing_left r now intfName).2 e he
  rw [hstep, Ne, action_expire_iff]
  rcases p.step_cases now hact with ⟨hlt, e1⟩ | ⟨_, e1⟩ <;> rw [e1]
  · -- the probe was not due: `now < next`
    exact fun h => Nat.lt_irrefl _ (Nat.lt_of_lt_of_le hlt h.1)
  · -- the probe has sent: its next send is `now + 250`
    have hnext : ¬ now ≥ now + 250 := by omega
    exact fun h => hnext h.1

theorem wakeService_noexp (now jitter : Nat) (i : MyIntf) (acc : State × List Out) (name : BList)
    (h : NoExp now (acc.1.registry i.index)) : NoExp now ((wakeService now jitter i acc name).1.registry i.index) := by
  rcases wakeService_cases now jitter i acc name with e | ⟨svc, _, _, e | ⟨_, e⟩⟩ <;> rw [e]
  · exact h
  · rw [registry_setRegistry_self]
    exact announce_pair_noexp h svc i jitter
  · show NoExp now ((acc.1.setRegistry i.index _).registry i.index)
    rw [registry_setRegistry_self]
    exact announce_pair_noexp h svc i jitter

theorem probingOnIntf_noexp_self (now jitter : Nat) (acc : State × List Out) (i : MyIntf) :
    NoExp now ((probingOnIntf now jitter acc i).1.registry i.index) :=
  probingOnIntf_ind (P := fun a => NoExp now (a.1.registry i.index)) now jitter acc i
    (fun hr => registry_of_none hr ▸ NoExp.empty now)
    (fun r _ => probed_registry_self now acc i r ▸ checkProbing_noexp r now i.name)
    (fun a nm ha => wakeService_noexp now jitter i a nm ha)
    (fun a ha => drainNewTimers_registry_self i.index a ▸ ha)

/-! ### what is left for the instant `now` after an iteration at `now` -/

/-- Nothing is left for an iteration at `now` but first queries of probes: every interface
    registry has handed over its `new_timers`, no probe ends at `now`, no re-run is due, the
    interface check is not due. -/
structure Quiet (now : Nat) (s : State) : Prop where
  drained : Drained s
  probes : ∀ i ∈ s.intfs, NoExp now (s.registry i.index)
  reruns : ∀ r ∈ s.reruns, now < r.next
  ip : s.nextIpCheck = 0 ∨ now < s.nextIpCheck

theorem runIpCheck_ip_after (s : State) (now : Nat) :
    (runIpCheck s now).nextIpCheck = 0 ∨ now < (runIpCheck s now).nextIpCheck := by
  rcases runIpCheck_cases s now with ⟨e, hc⟩ | ⟨e, _⟩ | ⟨e, hpos, _⟩ <;> rw [e]
  · exact hc.imp And.left id
  · exact Or.inl rfl
  · exact Or.inr (Nat.lt_add_of_pos_right hpos)

theorem tail_quiet (s : State) (now j : Nat) :
    Quiet now (runIpCheck (probingHandler (runReruns s now j).1 now j).1 now) := by
  refine ⟨runIpCheck_drained now (probingHandler_drained _ now j), ?_, ?_, runIpCheck_ip_after _ now⟩
  · intro i hi
    rw [(runIpCheck_registries _ now).2.1, (probingHandler_frame _ now j).1] at hi
    rw [registry_congr (runIpCheck_registries _ now).1]
    exact probingHandler_each _ now j (NoExp now) (probingOnIntf_noexp_self now j) i hi
  · -- what stays queued was not due; what `probing_handler` queues is due a second later
    intro r hr
    obtain ⟨new, e, hnew⟩ := (probingHandler_woken (runReruns s now j).1 now j).reruns
    rw [(runIpCheck_registries _ now).2.2.2, e, (runReruns_frame s now j).2.1] at hr
    rcases List.mem_append.mp hr with h | h
    · simpa using (List.mem_filter.mp h).2
    · obtain ⟨_, _, rfl⟩ := hnew r h
      exact Nat.lt_add_of_pos_right (by decide)

/-- After any iteration (any state before it, any input): unless the daemon has stopped, nothing
    is left for the instant of the iteration but first queries of freshly created probes -/
theorem iter_quiet (s : State) (inp : Input) (hrun : (iter s inp).1.stopped = false) : Quiet inp.now (iter s inp).1 := by
  rcases iter_cases s inp with hst | ⟨_, e⟩
  · rw [hrun] at hst
    cases hst.1
  · rw [e]
    exact tail_quiet _ inp.now inp.jitter

/-! ### an iteration without input in a quiet state -/

theorem runReruns_none_due (s : State) (now j : Nat) (h : ∀ r ∈ s.reruns, now < r.next) :
    runReruns s now j = ({ s with reruns := s.reruns.filter (fun r => !decide (now ≥ r.next)) }, []) := by
  unfold runReruns
  have : s.reruns.filter (fun r => decide (now ≥ r.next)) = [] := by
    rw [List.filter_eq_nil_iff]
    intro r hr
    have := h r hr
    simp only [decide_eq_true_eq]
    omega
  rw [this]
  rfl

/-- the body of `probing_handler` on a registry without `new_timers` in which no probe ends: the
    only timers it arms are for `now + 250` (the next query of each probe that sent one) -/
theorem probingOnIntf_timers_quiet (now jitter : Nat) (acc : State × List Out) (i : MyIntf)
    (hd : (acc.1.registry i.index).newTimers = []) (hne : NoExp now (acc.1.registry i.index)) :
    ∀ t ∈ (probingOnIntf now jitter acc i).1.timers, t ∈ acc.1.timers ∨ t = now + 250 := by
  cases hr : alookup i.index acc.1.registries with
  | none =>
    rw [probingOnIntf_none hr]
    exact fun t ht => Or.inl ht
  | some r =>
    rw [registry_of_lookup hr] at hd hne
    -- no probe ends: nobody is woken, and the registry has nothing to drain
    have hexp : (checkProbing r now).expired = [] := by
      simp only [checkProbing, List.map_eq_nil_iff, List.filter_eq_nil_iff, beq_iff_eq]
      exact hne
    rw [probingOnIntf_some hr, hexp]
    intro t ht
    have hnt : ((probed now acc i r).1.registry i.index).newTimers = [] := by
      rw [probed_registry_self, hexp]
      exact hd
    simp only [handleExpiredProbes, List.foldl_nil, drainNewTimers, hnt, List.append_nil] at ht
    rcases List.mem_append.mp ht with ht | ht
    · exact Or.inl ht
    · right
      simp only [checkProbing, List.mem_map] at ht
      obtain ⟨_, _, rfl⟩ := ht
      rfl

/-- what `probing_handler` keeps, interface after interface, when it starts from the quiet state `s0` -/
structure QuietFold (now : Nat) (s0 : State) (acc : State × List Out) : Prop where
  intfs : acc.1.intfs = s0.intfs
  timers : ∀ t ∈ acc.1.timers, t ∈ s0.timers ∨ t = now + 250
  drained : ∀ i ∈ s0.intfs, (acc.1.registry i.index).newTimers = []
  noexp : ∀ i ∈ s0.intfs, NoExp now (acc.1.registry i.index)

theorem probingOnIntf_quiet (now jitter : Nat) (s0 : State) (acc : State × List Out) (i : MyIntf) (hi : i ∈ s0.intfs)
    (h : QuietFold now s0 acc) : QuietFold now s0 (probingOnIntf now jitter acc i) := by
  have hstep := probingOnIntf_step now jitter acc i
  refine ⟨hstep.intfs.trans h.intfs, ?_, ?_, ?_⟩
  · intro t ht
    rcases probingOnIntf_timers_quiet now jitter acc i (h.drained i hi) (h.noexp i hi) t ht with h1 | h1
    · exact h.timers t h1
    · exact Or.inr h1
  · intro k hk
    by_cases e : k.index = i.index
    · rw [e]; exact hstep.drained
    · rw [hstep.other k.index e]; exact h.drained k hk
  · intro k hk
    by_cases e : k.index = i.index
    · rw [e]; exact probingOnIntf_noexp_self now jitter acc i
    · rw [hstep.other k.index e]; exact h.noexp k hk

/-- An iteration without input in a quiet state arms timers after `now` only: the timers it leaves
    are old ones that lie after `now`, `now + 250` for the probes that sent a query, and
    `now + interval` when the interface check is switched on again -/
theorem idle_quiet_timers (s : State) (now j : Nat) (hrun : s.stopped = false) (hd : Drained s)
    (hp : ∀ i ∈ s.intfs, NoExp now (s.registry i.index)) (hr : ∀ r ∈ s.reruns, now < r.next) :
    ∀ t ∈ (iter s (idle now j)).1.timers, now < t := by
  rw [iter_idle s now j hrun, loopTail_fst,
    runReruns_none_due ({ s with timers := s.timers.filter (· > now) } : State) now j hr]
  generalize hs0 : ({ s with timers := s.timers.filter (· > now), reruns := s.reruns.filter (fun r => !decide (now ≥ r.next)) } : State) = s0
  have hq : QuietFold now s0 (probingHandler s0 now j) := by
    subst hs0
    exact foldl_inv (fun (a : State × List Out) => QuietFold now _ a) (probingOnIntf now j) _ (_, [])
      ⟨rfl, fun t ht => Or.inl ht, hd, hp⟩
      (fun a i hi ha => probingOnIntf_quiet now j _ a i hi ha)
  have ht5 : ∀ t ∈ (probingHandler s0 now j).1.timers, now < t := by
    intro t ht
    rcases hq.timers t ht with h1 | h1
    · subst hs0
      simpa using (List.mem_filter.mp h1).2
    · omega
  intro t ht
  rcases runIpCheck_cases (probingHandler s0 now j).1 now with ⟨e, _⟩ | ⟨e, _⟩ | ⟨e, hpos, _⟩ <;> rw [e] at ht
  · exact ht5 t ht
  · exact ht5 t ht
  · rcases List.mem_append.mp ht with ht | ht
    · exact ht5 t ht
    · rw [List.mem_singleton.mp ht]
      exact Nat.lt_add_of_pos_right hpos

/-- any number (at least one) of iterations without input at the ONE instant `now` of a quiet state
    (`run` over `idle now j` for the jitters `j :: js`; not `idleRun`, which runs one jitter at many
    times): every timer lies after that instant -/
theorem idle_run_quiet_timers (now : Nat) : ∀ (js : List Nat) (j : Nat) (s : State), s.stopped = false → Quiet now s →
    ∀ t ∈ (run s ((j :: js).map (idle now))).1.timers, now < t
  | [], j, s, hrun, hq => by
    simpa [run] using idle_quiet_timers s now j hrun hq.drained hq.probes hq.reruns
  | j' :: js, j, s, hrun, hq => by
    have hrun' := (iter_idle_frame s now j hrun).2
    simpa [List.map_cons, run] using idle_run_quiet_timers now js j' _ hrun' (iter_quiet s (idle now j) hrun')

/-! ### an iteration without input and without due work does nothing -/

/-- no probe of the registry is due at `now` -/
def AllIdle (now : Nat) (r : Registry) : Prop := ∀ e ∈ r.probing, now < e.2.next

theorem action_idle_of_lt {p : Probe} {now : Nat} (h : now < p.next) : p.action now = .idle := by
  rw [Probe.action_eq, if_neg (Nat.not_le.mpr h)]

theorem AllIdle.noExp {now : Nat} {r : Registry} (h : AllIdle now r) : NoExp now r := by
  intro e he
  rw [action_idle_of_lt (h e he)]
  simp

theorem checkProbing_allIdle {now : Nat} {r : Registry} (h : AllIdle now r) :
    (checkProbing r now).reg = r ∧ (checkProbing r now).questions = [] ∧ (checkProbing r now).expired = [] := by
  have hact : ∀ e ∈ r.probing, e.2.action now = .idle := fun e he => action_idle_of_lt (h e he)
  refine ⟨?_, ?_, ?_⟩
  · simp only [checkProbing]
    have : r.probing.map (fun (x : BList × Probe) => (x.1, x.2.step now)) = r.probing := by
      rw [List.map_congr_left (g := id)]
      · simp
      · intro e he
        simp only [Probe.step, hact e he, id]
    simp only [this]
  · simp only [checkProbing, List.map_eq_nil_iff, List.filter_eq_nil_iff]
    intro e he
    simp [hact e he]
  · simp only [checkProbing, List.map_eq_nil_iff, List.filter_eq_nil_iff]
    intro e he
    simp [hact e he]

theorem probingOnIntf_allIdle (now jitter : Nat) (acc : State × List Out) (i : MyIntf)
    (h : AllIdle now (acc.1.registry i.index)) :
    (probingOnIntf now jitter acc i).2 = acc.2 ∧
    ((probingOnIntf now jitter acc i).1.registry i.index).probing = (acc.1.registry i.index).probing := by
  cases hr : alookup i.index acc.1.registries with
  | none =>
    rw [probingOnIntf_none hr]
    exact ⟨rfl, rfl⟩
  | some r =>
    rw [registry_of_lookup hr] at h ⊢
    obtain ⟨h1, h2, h3⟩ := checkProbing_allIdle h
    rw [probingOnIntf_some hr, h3, drainNewTimers_registry_self]
    simp only [handleExpiredProbes, List.foldl_nil]
    rw [probed_registry_self, h3]
    exact ⟨by simp [probed, h3, handleExpiredProbes, probeSends, h2, drainNewTimers], congrArg Registry.probing h1⟩

theorem probingHandler_allIdle (s : State) (now jitter : Nat) (h : ∀ i ∈ s.intfs, AllIdle now (s.registry i.index)) :
    (probingHandler s now jitter).2 = [] := by
  unfold probingHandler
  have := foldl_inv (fun (a : State × List Out) => a.2 = [] ∧ ∀ i ∈ s.intfs, AllIdle now (a.1.registry i.index))
    (probingOnIntf now jitter) s.intfs (s, []) ⟨rfl, h⟩
    (fun a i hi ha => by
      obtain ⟨h1, h2⟩ := probingOnIntf_allIdle now jitter a i (ha.2 i hi)
      refine ⟨h1.trans ha.1, ?_⟩
      intro k hk
      by_cases e : k.index = i.index
      · intro x hx
        rw [e, h2] at hx
        exact ha.2 i hi x hx
      · rw [(probingOnIntf_step now jitter a i).other k.index e]
        exact ha.2 k hk)
  exact this.1

/-- An iteration without input and without due work sends nothing, reports nothing -/
theorem idle_nothing_due_outs (s : State) (now j : Nat) (hrun : s.stopped = false)
    (hp : ∀ i ∈ s.intfs, AllIdle now (s.registry i.index)) (hr : ∀ r ∈ s.reruns, now < r.next) :
    (iter s (idle now j)).2 = [] := by
  rw [iter_idle s now j hrun]
  unfold loopTail
  simp only []
  rw [runReruns_none_due ({ s with timers := s.timers.filter (· > now) } : State) now j hr]
  simp only [List.nil_append]
  exact probingHandler_allIdle _ now j hp

end Mdns.Responder
