import Mdns.Lemmas.ClientKept
import Mdns.Lemmas.Sched
import Mdns.Lemmas.ClientWf
import Mdns.Model.Delay
/-
  C19 on the client model: at most one queued retransmission per browsed type and per
  (lower-cased) host name (`OneEachC`), through every phase of an iteration; what stays queued
  and what is queued by the re-run loop.
-/
namespace Mdns.Client
open Mdns Mdns.Rec Mdns.Cache

/-- the search whose schedule a queued re-run continues: a browsed type, or a host name compared
    without letter case; none for follow-ups and verify resends -/
def skey : RCmd → Option (Bool × BList)
  | .browse ty _ _ => some (false, ty)
  | .resolveHost h _ _ => some (true, lower h)
  | _ => none

/-- at most one queued retransmission per search -/
def OneEachC (l : List Rerun) : Prop := ∀ k, (l.filter fun r => skey r.cmd == some k).length ≤ 1

theorem isBrowseOf_iff (ty : BList) (r : Rerun) : isBrowseOf ty r = (skey r.cmd == some (false, ty)) := by
  obtain ⟨n, c⟩ := r
  cases c
  case browse => exact (Sched.some_pair_beq false _ ty).symm
  all_goals rfl

theorem isResolveOf_iff (key : BList) (r : Rerun) : isResolveOf key r = (skey r.cmd == some (true, key)) := by
  obtain ⟨n, c⟩ := r
  cases c
  case resolveHost => exact (Sched.some_pair_beq true _ key).symm
  all_goals rfl

theorem OneEachC.nil : OneEachC [] := fun _ => by simp

theorem OneEachC.filter {l : List Rerun} (h : OneEachC l) (p : Rerun → Bool) : OneEachC (l.filter p) :=
  Sched.OnePer.filter (key := fun r : Rerun => skey r.cmd) h p

theorem OneEachC.sub {l l' : List Rerun} (h : OneEachC l) (hs : l'.Sublist l) : OneEachC l' := by
  intro k
  exact Nat.le_trans (List.Sublist.length_le (hs.filter _)) (h k)

theorem filter_key_followups {l : List Rerun} (h : ∀ r ∈ l, skey r.cmd = none) (K : Bool × BList) :
    l.filter (fun r => skey r.cmd == some K) = [] := by
  rw [List.filter_eq_nil_iff]
  intro r hr
  simp [h r hr]

theorem not_key_of_filter_nil {l : List Rerun} {K : Bool × BList} (h : l.filter (fun r => skey r.cmd == some K) = []) :
    ∀ x ∈ l, skey x.cmd ≠ some K := by
  intro x hx hk
  have := List.filter_eq_nil_iff.mp h x hx
  simp [hk] at this

theorem skey_of_rkey_none {c : RCmd} (h : rkey c = none) : skey c = none := by
  cases c <;> simp [rkey] at h <;> rfl

/-- the phase only appends re-runs that continue no schedule (`skey = none`: the follow-ups of a resolution and
    the resend of a verification) -/
def AppendsFollowups (s s' : State) : Prop := ∃ extra, s'.reruns = s.reruns ++ extra ∧ ∀ r ∈ extra, skey r.cmd = none

theorem AppendsFollowups.refl (s : State) : AppendsFollowups s s := ⟨[], by simp, fun _ h => by cases h⟩

theorem AppendsFollowups.trans {a b c : State} (h1 : AppendsFollowups a b) (h2 : AppendsFollowups b c) :
    AppendsFollowups a c := by
  obtain ⟨e1, r1, k1⟩ := h1
  obtain ⟨e2, r2, k2⟩ := h2
  refine ⟨e1 ++ e2, by rw [r2, r1, List.append_assoc], ?_⟩
  intro r hr
  rcases List.mem_append.mp hr with hr | hr
  · exact k1 r hr
  · exact k2 r hr

theorem AppendsFollowups.of_eq {s s' : State} (h : s'.reruns = s.reruns) : AppendsFollowups s s' :=
  ⟨[], by simp [h], fun _ h => by cases h⟩

theorem af_addPendings (now : Nat) : ∀ (l : List BList) (s : State), AppendsFollowups s (addPendings s now l)
  | [], s => .refl s
  | i :: rest, s => by
    refine AppendsFollowups.trans ?_ (af_addPendings now rest (addPending s now i))
    unfold addPending
    split
    · exact .refl s
    · exact ⟨[_], rfl, fun r hr => by rw [List.mem_singleton.mp hr]; rfl⟩

theorem af_resolveUpdated (s : State) (now : Nat) (u : List BList) : AppendsFollowups s (resolveUpdated s now u).1 := by
  unfold resolveUpdated
  split
  · exact AppendsFollowups.refl s
  · simp only []
    exact AppendsFollowups.trans (AppendsFollowups.of_eq rfl) (af_addPendings now _ _)

theorem af_handleRead (s : State) (now : Nat) (p : Packet) : AppendsFollowups s (handleRead s now p).1 := by
  unfold handleRead
  split
  · exact .refl s
  · split
    · exact .refl s
    · split
      · exact (AppendsFollowups.of_eq (s' := addTimers { s with cache := _ } _) rfl).trans (af_resolveUpdated _ now _)
      · exact .refl s

theorem af_ingress (now : Nat) : ∀ (pkts : List Packet) (s : State), AppendsFollowups s (ingress s now pkts).1
  | [], s => AppendsFollowups.refl s
  | p :: rest, s => by
    simp only [ingress]
    exact (af_handleRead s now p).trans (af_ingress now rest _)

theorem af_queryCacheForService (s : State) (now : Nat) (ty : BList) (ch : Nat) :
    AppendsFollowups s (queryCacheForService s now ty ch).1 := by
  simp only [queryCacheForService]
  exact AppendsFollowups.trans (AppendsFollowups.of_eq rfl) (af_addPendings now _ _)

theorem af_evictAddrHosts (now : Nat) (items : List (BList × BList × BList × Nat)) :
    ∀ (hosts : List BList) (s : State), AppendsFollowups s (evictAddrHosts s now items hosts).1
  | [], s => AppendsFollowups.refl s
  | h :: rest, s => by
    simp only [evictAddrHosts]
    exact (af_resolveUpdated s now _).trans (af_evictAddrHosts now items rest _)

theorem af_evictAddrPhase (s : State) (now : Nat) : AppendsFollowups s (evictAddrPhase s now).1 :=
  (AppendsFollowups.of_eq rfl).trans (af_evictAddrHosts now _ _ { s with cache := (evictAddr s.cache now).1 })

theorem af_afterReruns (m : State) (now : Nat) : AppendsFollowups m
    (evictAddrPhase (evictServicesPhase (refreshResolvers (refreshActive m now).1 now).1 now).1 now).1 :=
  (((AppendsFollowups.of_eq (refreshActive_reruns m now)).trans (.of_eq (refreshResolvers_reruns _ now))).trans
    (.of_eq (evictServicesPhase_reruns _ now))).trans (af_evictAddrPhase _ now)

theorem af_tail (x : State) (now : Nat) (post : List Command) :
    AppendsFollowups (rerunPhase (runCommands x now post).1 now).1 (runIpCheck (tailState x now post) now) :=
  have h : AppendsFollowups _ (tailState x now post) := af_afterReruns (rerunPhase (runCommands x now post).1 now).1 now
  h.trans (.of_eq (runIpCheck_reruns (tailState x now post) now))

theorem AppendsFollowups.mem {s s' : State} (ha : AppendsFollowups s s') {r : Rerun} (hr : r ∈ s.reruns) : r ∈ s'.reruns := by
  obtain ⟨extra, he, _⟩ := ha
  rw [he]
  exact List.mem_append_left _ hr

theorem OneEachC.af {s s' : State} (h : OneEachC s.reruns) (ha : AppendsFollowups s s') : OneEachC s'.reruns := by
  obtain ⟨extra, he, hk⟩ := ha
  rw [he]
  exact Sched.OnePer.append_none (key := fun r : Rerun => skey r.cmd) h extra hk

theorem key_filter_af {s s' : State} (ha : AppendsFollowups s s') (k : Bool × BList) :
    s'.reruns.filter (fun r => skey r.cmd == some k) = s.reruns.filter (fun r => skey r.cmd == some k) := by
  obtain ⟨extra, he, hk⟩ := ha
  rw [he, List.filter_append, filter_key_followups hk, List.append_nil]

/-- the command starts or stops the search `K` -/
def touches : Bool × BList → Command → Bool
  | (false, ty), c => touchesType ty c
  | (true, key), c => touchesHost key c

theorem not_touches {K : Bool × BList} {l : List Command} (h : l.all (fun c => !touches K c) = true) :
    ∀ c ∈ l, touches K c = false :=
  fun c hc => by simpa using List.all_eq_true.mp h c hc

/-- what a command that starts or stops the search `K` does to the queue: the re-runs of `K` are
    taken out, follow-ups are appended, then `new` -/
def Requeues (K : Bool × BList) (new : List Rerun) (s s' : State) : Prop :=
  ∃ extra, s'.reruns = s.reruns.filter (fun r => !(skey r.cmd == some K)) ++ extra ++ new ∧
    ∀ r ∈ extra, skey r.cmd = none

section Requeues
variable {K : Bool × BList} {new : List Rerun} {s s' : State}

theorem Requeues.filter_self (h : Requeues K new s s') (hnew : ∀ r ∈ new, skey r.cmd = some K) :
    s'.reruns.filter (fun r => skey r.cmd == some K) = new := by
  obtain ⟨extra, he, hk⟩ := h
  rw [he, List.filter_append, List.filter_append, Sched.filter_not_self (fun r : Rerun => skey r.cmd == some K),
    filter_key_followups hk, List.filter_eq_self.mpr (fun r hr => by simp [hnew r hr])]
  rfl

theorem Requeues.filter_other (h : Requeues K new s s') (hnew : ∀ r ∈ new, skey r.cmd = some K) {K' : Bool × BList}
    (hne : K' ≠ K) :
    s'.reruns.filter (fun r => skey r.cmd == some K') = s.reruns.filter (fun r => skey r.cmd == some K') := by
  obtain ⟨extra, he, hk⟩ := h
  have hn : new.filter (fun r => skey r.cmd == some K') = [] := by
    rw [List.filter_eq_nil_iff]
    intro r hr
    simpa [hnew r hr] using hne.symm
  rw [he, List.filter_append, List.filter_append, filter_key_followups hk, hn, List.append_nil, List.append_nil]
  rw [List.filter_filter]
  refine List.filter_congr fun r _ => ?_
  cases hr : skey r.cmd == some K' with
  | false => rfl
  | true => simp [show skey r.cmd = some K' by simpa using hr, hne]

end Requeues

theorem purge_browse (ty : BList) (l : List Rerun) :
    l.filter (fun r => !isBrowseOf ty r) = l.filter (fun r => !(skey r.cmd == some (false, ty))) :=
  List.filter_congr fun r _ => by rw [isBrowseOf_iff]

theorem purge_resolve (key : BList) (l : List Rerun) :
    l.filter (fun r => !isResolveOf key r) = l.filter (fun r => !(skey r.cmd == some (true, key))) :=
  List.filter_congr fun r _ => by rw [isResolveOf_iff]

theorem execBrowse_requeues (s : State) (now : Nat) (ty : BList) (d : Nat) (co : Bool) (ch : Nat) :
    Requeues (false, ty) (if co then [] else [⟨now + d * 1000, .browse ty (Sched.nextDelay d) ch⟩]) s
      (execBrowse s now false ty d co ch).1 := by
  obtain ⟨extra, he, hk⟩ := af_queryCacheForService
    { s with reruns := s.reruns.filter (fun r => !isBrowseOf ty r),
             queriers := (ty, ch) :: s.queriers.filter (fun q => q.1 != ty),
             cacheOnly := if co then insertSet s.cacheOnly ty else s.cacheOnly.filter (· != ty) } now ty ch
  refine ⟨extra, ?_, hk⟩
  rw [← purge_browse]
  unfold execBrowse
  cases co
  · simp only [Bool.false_eq_true, if_false, addRerun]
    exact congrArg (· ++ _) he
  · simp only [Bool.false_eq_true, if_false, if_true, List.append_nil]
    exact he

theorem execResolveHost_requeues (s : State) (now : Nat) (host : BList) (d ch : Nat) (timeout : Option Nat) :
    Requeues (true, lower host)
      (if ((timeout.map (now + ·)).map fun t => decide (now + d * 1000 < t)).getD true
        then [⟨now + d * 1000, .resolveHost host (Sched.nextDelay d) ch⟩] else []) s
      (execResolveHost s now false host d ch timeout).1 := by
  refine ⟨[], ?_, nofun⟩
  rw [← purge_resolve, List.append_nil]
  cases timeout with
  | none => simp [execResolveHost, withinDeadline, addRerun]
  | some t =>
    by_cases h : now + d * 1000 < now + t <;> simp [execResolveHost, withinDeadline, addRerun, h]

/-- **What a command does to the queue**: it appends follow-ups, or it belongs to a search `K`, takes
    the re-runs of `K` out and queues at most one for `K` -/
theorem execCommand_queue (s : State) (now : Nat) (c : Command) :
    AppendsFollowups s (execCommand s now c).1 ∨
    ∃ K new, touches K c = true ∧ Requeues K new s (execCommand s now c).1 ∧
      (∀ r ∈ new, skey r.cmd = some K) ∧ new.length ≤ 1 := by
  cases c with
  | browse ty ch co =>
    refine Or.inr ⟨(false, ty), _, beq_self_eq_true ty, execBrowse_requeues s now ty 1 co ch, ?_, ?_⟩ <;>
      cases co <;> simp [skey]
  | resolveHost h ch t =>
    refine Or.inr ⟨(true, lower h), _, beq_self_eq_true _, execResolveHost_requeues s now h 1 ch t, ?_, ?_⟩ <;>
      split <;> simp [skey]
  | stopBrowse ty =>
    simp only [execCommand, execStopBrowse]
    split
    · exact Or.inl (.refl s)
    · exact Or.inr ⟨(false, ty), [], beq_self_eq_true ty, ⟨[], by simp [purge_browse], nofun⟩, nofun, Nat.zero_le _⟩
  | stopResolve h =>
    simp only [execCommand, execStopResolve]
    split
    · exact Or.inl (.refl s)
    · exact Or.inr ⟨(true, lower h), [], beq_self_eq_true _, ⟨[], by simp [purge_resolve], nofun⟩, nofun, Nat.zero_le _⟩
  | verify inst t =>
    left
    simp only [execCommand, execVerify, Bool.false_eq_true, if_false]
    split
    · exact .of_eq rfl
    · exact ⟨[_], rfl, fun r hr => by rw [List.mem_singleton.mp hr]; rfl⟩
  | ipInterval ms => exact Or.inl (.of_eq rfl)
  | metrics ch => exact Or.inl (.of_eq rfl)
  | acceptUnsolicited on => exact Or.inl (.of_eq rfl)

theorem oneEach_runCommands (now : Nat) (l : List Command) (s : State) (h : OneEachC s.reruns) :
    OneEachC (runCommands s now l).1.reruns := by
  refine runCommands_induct (P := fun s => OneEachC s.reruns) (ok := fun _ => True) now
    (fun s c _ h => ?_) l s (fun _ _ => trivial) h
  rcases execCommand_queue s now c with ha | ⟨K, new, _, hq, hnew, hlen⟩
  · exact h.af ha
  · intro K'
    by_cases e : K' = K
    · rw [e, hq.filter_self hnew]
      exact hlen
    · rw [hq.filter_other hnew e]
      exact h K'

theorem key_filter_runCommands (K : Bool × BList) (now : Nat) (l : List Command) (s : State)
    (hc : l.all (fun c => !touches K c) = true) :
    (runCommands s now l).1.reruns.filter (fun r => skey r.cmd == some K) =
      s.reruns.filter (fun r => skey r.cmd == some K) := by
  refine runCommands_induct (P := fun s' => s'.reruns.filter (fun r => skey r.cmd == some K) = s.reruns.filter _) now
    (fun s' c hc hp => Eq.trans ?_ hp) l s (not_touches hc) rfl
  rcases execCommand_queue s' now c with ha | ⟨K', new, hK', hq, hnew, _⟩
  · exact key_filter_af ha K
  · exact hq.filter_other hnew (fun e => by rw [← e, hc] at hK'; cases hK')

theorem followup_kept_runCommands (now : Nat) (r : Rerun) (hk : skey r.cmd = none) (l : List Command) (s : State)
    (hr : r ∈ s.reruns) : r ∈ (runCommands s now l).1.reruns := by
  refine runCommands_induct (P := fun s => r ∈ s.reruns) (ok := fun _ => True) now
    (fun s c _ hr => ?_) l s (fun _ _ => trivial) hr
  rcases execCommand_queue s now c with ha | ⟨_, _, _, ⟨extra, he, _⟩, _, _⟩
  · exact ha.mem hr
  · rw [he]
    exact List.mem_append_left _ (List.mem_append_left _ (List.mem_filter.mpr ⟨hr, by simp [hk]⟩))

theorem execRerun_browse (s : State) (now : Nat) (ty : BList) (d ch : Nat) :
    (execRerun s now (.browse ty d ch)).1.reruns = s.reruns ++ [⟨now + d * 1000, .browse ty (Sched.nextDelay d) ch⟩] ∧
    (execRerun s now (.browse ty d ch)).2 = [.event ch .started, sendQuery s.cache now [(ty, 12)]] := by
  simp [execRerun, execBrowse, addRerun]

theorem execRerun_resolveHost (st : State) (now : Nat) (host : BList) (d ch : Nat) :
    (execRerun st now (.resolveHost host d ch)).1.reruns = st.reruns ++
      (if st.resolvers.any (·.1 == lower host) && withinDeadline st (lower host) (now + d * 1000) then
        [⟨now + d * 1000, .resolveHost host (Sched.nextDelay d) ch⟩] else []) ∧
    (execRerun st now (.resolveHost host d ch)).2 =
      if st.resolvers.any (·.1 == lower host) then
        [.event ch .hstarted, sendQuery st.cache now [(host, 1), (host, 28)]] else [] := by
  cases h1 : st.resolvers.any (·.1 == lower host) <;>
    cases h2 : withinDeadline st (lower host) (now + d * 1000) <;>
    simp [execRerun, execResolveHost, h1, h2, addRerun]

/-- what executing a re-run on a state with an empty queue leaves in the queue: nothing, or one
    re-run that continues the same schedule (or none) -/
theorem execRerun_queue (s : State) (hs : s.reruns = []) (now : Nat) (c : RCmd) :
    (execRerun s now c).1.reruns = [] ∨ ∃ r', (execRerun s now c).1.reruns = [r'] ∧ skey r'.cmd = skey c := by
  cases c with
  | browse ty d ch => exact Or.inr ⟨_, by rw [(execRerun_browse s now ty d ch).1, hs]; rfl, rfl⟩
  | resolveHost h d ch =>
    rw [(execRerun_resolveHost s now h d ch).1, hs, List.nil_append]
    split
    · exact Or.inr ⟨_, rfl, rfl⟩
    · exact Or.inl rfl
  | resolve inst k =>
    simp only [execRerun, execResolveInst]
    split
    · exact Or.inl hs
    · simp only []
      split
      · exact Or.inr ⟨⟨now + RESOLVE_WAIT, .resolve inst (k + 1)⟩, by simp [addRerun, hs], rfl⟩
      · exact Or.inl hs
  | verify inst t =>
    left
    simp only [execRerun, execVerify, if_true]
    split <;> exact hs

/-- an invariant of the queue through the loop: it is enough that it survives the running of a due
    re-run, which is taken out and may queue one re-run that continues its schedule -/
theorem runReruns_invariant (now : Nat) (I : List Rerun → Prop)
    (step : ∀ (keep rest app : List Rerun) (r : Rerun), r.next ≤ now →
      (app = [] ∨ ∃ r', app = [r'] ∧ skey r'.cmd = skey r.cmd) → I (keep ++ r :: rest) → I (keep ++ (rest ++ app)))
    (fuel : Nat) (keep rest : List Rerun) (s : State) (hs : s.reruns = []) (h : I (keep ++ rest)) :
    I (runReruns s now fuel keep rest).1.reruns :=
  (runReruns_induct (P := fun s => I s.reruns) (Q := fun _ => True) now
    (fun s keep rest r hq hr hp =>
      ⟨step keep rest _ r hr (execRerun_queue { s with reruns := [] } rfl now r.cmd) (hq ▸ hp), fun _ _ => trivial⟩)
    fuel keep rest s hs h).1

theorem runReruns_waiting (now : Nat) (K : Bool × BList) (fuel : Nat) (keep rest : List Rerun) (s : State)
    (hs : s.reruns = []) (h : ∀ r ∈ keep ++ rest, skey r.cmd = some K → now < r.next) :
    (runReruns s now fuel keep rest).1.reruns.filter (fun r => skey r.cmd == some K) =
      (keep ++ rest).filter (fun r => skey r.cmd == some K) := by
  refine (runReruns_invariant now (fun l => (∀ r ∈ l, skey r.cmd = some K → now < r.next) ∧
    l.filter (fun r => skey r.cmd == some K) = (keep ++ rest).filter (fun r => skey r.cmd == some K))
    (fun keep' rest' app r hr happ h => ?_) fuel keep rest s hs ⟨h, rfl⟩).2
  -- a due re-run is not of `K`, and what it queues continues its own schedule
  have hrK : (skey r.cmd == some K) = false := by
    cases hk : skey r.cmd == some K with
    | false => rfl
    | true =>
      have := h.1 r (by simp) (by simpa using hk)
      omega
  have happ' : app.filter (fun x => skey x.cmd == some K) = [] := by
    rcases happ with rfl | ⟨r', rfl, hk⟩
    · rfl
    · simp only [List.filter_cons, hk, hrK, Bool.false_eq_true, if_false, List.filter_nil]
  refine ⟨fun x hx hk => ?_, ?_⟩
  · simp only [List.mem_append] at hx
    rcases hx with hx | hx | hx
    · exact h.1 x (by simp [hx]) hk
    · exact h.1 x (by simp [hx]) hk
    · exact absurd hk (not_key_of_filter_nil happ' x hx)
  · rw [← h.2]
    simp only [List.filter_append, List.filter_cons, hrK, Bool.false_eq_true, if_false, happ', List.append_nil]

/-- **A due re-run is run.**  `r`, queued behind `pre`, is executed on a state `st'` with the cache and
    the searches of `st`; what it sends is sent, what it queues for later stays queued, and if `r` is
    the only re-run of its search `K` the re-runs of `K` afterwards are those it queued. -/
theorem runReruns_due (now : Nat) (r : Rerun) (hdue : r.next ≤ now) :
    ∀ (pre : List Rerun) (fuel : Nat) (keep post : List Rerun) (st : State), pre.length < fuel →
    ∃ st' : State, st'.reruns = [] ∧ st'.cache = st.cache ∧ st'.resolvers = st.resolvers ∧
      (∀ o ∈ (execRerun st' now r.cmd).2, o ∈ (runReruns st now fuel keep (pre ++ r :: post)).2) ∧
      (∀ x ∈ (execRerun st' now r.cmd).1.reruns, now < x.next →
        x ∈ (runReruns st now fuel keep (pre ++ r :: post)).1.reruns) ∧
      ∀ K, (keep ++ pre ++ post).filter (fun x => skey x.cmd == some K) = [] →
        (∀ x ∈ (execRerun st' now r.cmd).1.reruns, now < x.next) →
        (runReruns st now fuel keep (pre ++ r :: post)).1.reruns.filter (fun x => skey x.cmd == some K) =
          (execRerun st' now r.cmd).1.reruns.filter (fun x => skey x.cmd == some K)
  | [], fuel + 1, keep, post, st, _ => by
    refine ⟨{ st with reruns := [] }, rfl, rfl, rfl, ?_⟩
    simp only [List.nil_append]
    rw [runReruns]
    have hdue' : now ≥ r.next := hdue
    simp only [hdue', if_true]
    refine ⟨fun o ho => List.mem_append_left _ ho, ?_, ?_⟩
    · intro x hx hlt
      -- a re-run that is not due is not the one taken out
      refine runReruns_invariant now (x ∈ ·) (fun keep rest app r hr _ h => ?_) fuel keep _ _ rfl (by simp [hx])
      simp only [List.mem_append, List.mem_cons] at h ⊢
      rcases h with h | rfl | h
      · exact Or.inl h
      · omega
      · exact Or.inr (Or.inl h)
    · intro K hnone hlater
      rw [runReruns_waiting now K fuel keep _ _ rfl]
      · rw [← List.append_assoc, List.filter_append, show keep ++ post = keep ++ [] ++ post by simp, hnone, List.nil_append]
      · intro x hx hk
        simp only [List.mem_append] at hx
        rcases hx with hx | hx | hx
        · exact absurd hk (not_key_of_filter_nil hnone x (by simp [hx]))
        · exact absurd hk (not_key_of_filter_nil hnone x (by simp [hx]))
        · exact hlater x hx
  | p :: pre', fuel + 1, keep, post, st, hf => by
    have hf' : pre'.length < fuel := by simpa using hf
    rw [List.cons_append, runReruns]
    split
    · simp only [List.append_assoc, List.cons_append]
      obtain ⟨st', h0, hc, hr, ho, hm, hK⟩ := runReruns_due now r hdue pre' fuel keep
        (post ++ (execRerun { st with reruns := [] } now p.cmd).1.reruns)
        { (execRerun { st with reruns := [] } now p.cmd).1 with reruns := [] } hf'
      refine ⟨st', h0, hc.trans (execRerun_cache _ now p.cmd), hr.trans (same_execRerun _ now p.cmd).resolvers,
        fun o h => List.mem_append_right _ (ho o h), hm, fun K hnone hlater => hK K ?_ hlater⟩
      -- what `p` queues continues the schedule of `p`, which is not that of `K`
      have hp : (skey p.cmd == some K) = false := by
        simpa using not_key_of_filter_nil hnone p (by simp)
      have h1 : (keep ++ pre' ++ post).filter (fun x => skey x.cmd == some K) = [] := by
        rw [List.filter_eq_nil_iff] at hnone ⊢
        intro x hx
        apply hnone x
        simp only [List.mem_append, List.mem_cons] at hx ⊢
        rcases hx with (hx | hx) | hx
        · exact Or.inl hx
        · exact Or.inr (Or.inr (Or.inl hx))
        · exact Or.inr (Or.inr (Or.inr hx))
      rw [← List.append_assoc, List.filter_append, h1, List.nil_append]
      rcases execRerun_queue { st with reruns := [] } rfl now p.cmd with hnil | ⟨r', hr', hk⟩
      · rw [hnil]; rfl
      · rw [hr']
        simp only [List.filter_cons, hk, hp, Bool.false_eq_true, if_false, List.filter_nil]
    · obtain ⟨st', h0, hc, hr, ho, hm, hK⟩ := runReruns_due now r hdue pre' fuel (keep ++ [p]) post st hf'
      refine ⟨st', h0, hc, hr, ho, hm, fun K hnone => hK K (by simpa [List.append_assoc] using hnone)⟩

theorem key_filter_preCommands (s : State) (now : Nat) (pkts : List Packet) (K : Bool × BList) :
    (preCommands s now pkts).reruns.filter (fun r => skey r.cmd == some K) =
      s.reruns.filter (fun r => skey r.cmd == some K) :=
  key_filter_af (s' := (ingress s now pkts).1) (af_ingress now pkts s) K

theorem oneEach_iter (s : State) (now : Nat) (pkts : List Packet) (cmds : List Command) (h : OneEachC s.reruns) :
    OneEachC (Client.iter s now pkts cmds).1.reruns := by
  have h1 : OneEachC (preCommands s now pkts).reruns := OneEachC.af (s' := (ingress s now pkts).1) h (af_ingress now pkts s)
  rw [(iter_tail s now pkts cmds).1]
  refine OneEachC.af (runReruns_invariant now OneEachC (fun keep rest app r _ happ h => ?_) _ [] _ _ rfl
    (oneEach_runCommands now cmds _ h1)) (af_tail _ now cmds)
  exact Sched.OnePer.replace_mid (key := fun r : Rerun => skey r.cmd) h happ

theorem rerunPhase_outs_in_tail (x : State) (now : Nat) (post : List Command) (o : Out)
    (h : o ∈ (rerunPhase (runCommands x now post).1 now).2) : o ∈ tailOuts x now post := by
  unfold tailOuts
  simp only [List.mem_append]
  left; left; left; left; right
  exact h

theorem tailOuts_in_iter (s : State) (now : Nat) (pkts : List Packet) (cmds : List Command) (o : Out)
    (h : o ∈ tailOuts (preCommands s now pkts) now cmds) : o ∈ (Client.iter s now pkts cmds).2 := by
  rw [(iter_tail s now pkts cmds).2]
  exact List.mem_append_right _ h

theorem mem_of_filter_eq_cons {α} {p : α → Bool} {l t : List α} {a : α} (h : l.filter p = a :: t) : a ∈ l ∧ p a = true :=
  List.mem_filter.mp (h ▸ List.mem_cons_self)

theorem tail_waiting (K : Bool × BList) (x : State) (now : Nat) (post : List Command)
    (hc : post.all (fun c => !touches K c) = true) {l : List Rerun}
    (hq : x.reruns.filter (fun y => skey y.cmd == some K) = l) (h : ∀ y ∈ l, now < y.next) :
    (runIpCheck (tailState x now post) now).reruns.filter (fun y => skey y.cmd == some K) = l := by
  rw [key_filter_af (af_tail x now post) K, ← hq, ← key_filter_runCommands K now post x hc] at *
  exact runReruns_waiting now K _ [] _ _ rfl fun y hy hk => h y (List.mem_filter.mpr ⟨hy, by simp [hk]⟩)

/-- **A due re-run in the rest of an iteration** (after the commands `post`): it is run on a state `st'`
    with the cache and the searches the commands leave; what it sends is sent, what it queues for
    later is queued at the end, and if it was the only re-run of its search `K`, that is all that is
    queued of `K` at the end. -/
theorem tail_due (x : State) (now : Nat) (post : List Command) (r : Rerun)
    (hmem : r ∈ (runCommands x now post).1.reruns) (hdue : r.next ≤ now) :
    ∃ st' : State, st'.reruns = [] ∧ st'.cache = (runCommands x now post).1.cache ∧
      st'.resolvers = (runCommands x now post).1.resolvers ∧
      (∀ o ∈ (execRerun st' now r.cmd).2, o ∈ tailOuts x now post) ∧
      (∀ y ∈ (execRerun st' now r.cmd).1.reruns, now < y.next →
        y ∈ (runIpCheck (tailState x now post) now).reruns) ∧
      ∀ K, (runCommands x now post).1.reruns.filter (fun y => skey y.cmd == some K) = [r] →
        (∀ y ∈ (execRerun st' now r.cmd).1.reruns, now < y.next) →
        (runIpCheck (tailState x now post) now).reruns.filter (fun y => skey y.cmd == some K) =
          (execRerun st' now r.cmd).1.reruns.filter (fun y => skey y.cmd == some K) := by
  obtain ⟨pre, rest, hpp⟩ := List.append_of_mem hmem
  -- the fuel must be literally that of `rerunPhase` (`reruns.length * 2 + 2`, Model/Client.lean): `ho`, `hm`, `hf`
  -- are then statements about `rerunPhase` by unfolding
  obtain ⟨st', h0, hc, hr, ho, hm, hf⟩ := runReruns_due now r hdue pre
    ((runCommands x now post).1.reruns.length * 2 + 2) [] rest { (runCommands x now post).1 with reruns := [] }
    (by rw [hpp, List.length_append]; omega)
  rw [← hpp] at ho hm hf
  refine ⟨st', h0, hc, hr, fun o h => rerunPhase_outs_in_tail x now post o (ho o h),
    fun y hy hlt => (af_tail x now post).mem (hm y hy hlt), fun K hq hlater => ?_⟩
  rw [key_filter_af (af_tail x now post) K]
  refine hf K ?_ hlater
  -- `r` is the one re-run of `K`
  have hK := (mem_of_filter_eq_cons hq).2
  have hl := congrArg List.length hq
  simp only [hpp, List.filter_append, List.filter_cons, hK, if_true, List.length_append, List.length_cons,
    List.length_nil] at hl
  rw [List.nil_append, List.filter_append, List.eq_nil_of_length_eq_zero (by omega : (pre.filter _).length = 0),
    List.eq_nil_of_length_eq_zero (by omega : (rest.filter _).length = 0)]
  rfl

/-- the re-runs of a search that no command touches and none of which is due are the same after
    the iteration -/
theorem iter_waiting (K : Bool × BList) (s : State) (now : Nat) (pkts : List Packet) (cmds : List Command)
    (hc : cmds.all (fun c => !touches K c) = true) {l : List Rerun}
    (hq : s.reruns.filter (fun y => skey y.cmd == some K) = l) (h : ∀ y ∈ l, now < y.next) :
    (Client.iter s now pkts cmds).1.reruns.filter (fun y => skey y.cmd == some K) = l := by
  rw [(iter_tail s now pkts cmds).1]
  exact tail_waiting K _ now cmds hc ((key_filter_preCommands s now pkts K).trans hq) h

/-- the one re-run of a search that no command touches is run when due, on a state `st'` with the
    resolvers the commands leave; if all it queues is for later, that is what is queued of the search -/
theorem iter_due (K : Bool × BList) (s : State) (now : Nat) (pkts : List Packet) (cmds : List Command) (r : Rerun)
    (hc : cmds.all (fun c => !touches K c) = true)
    (hq : s.reruns.filter (fun y => skey y.cmd == some K) = [r]) (hdue : r.next ≤ now) :
    ∃ st' : State, st'.reruns = [] ∧ st'.resolvers = (runCommands (preCommands s now pkts) now cmds).1.resolvers ∧
      (∀ o ∈ (execRerun st' now r.cmd).2, o ∈ (Client.iter s now pkts cmds).2) ∧
      ((∀ y ∈ (execRerun st' now r.cmd).1.reruns, now < y.next) →
        (Client.iter s now pkts cmds).1.reruns.filter (fun y => skey y.cmd == some K) =
          (execRerun st' now r.cmd).1.reruns.filter (fun y => skey y.cmd == some K)) := by
  have hq' := (key_filter_runCommands K now cmds _ hc).trans ((key_filter_preCommands s now pkts K).trans hq)
  obtain ⟨st', h0, _, hr, ho, _, hf⟩ := tail_due (preCommands s now pkts) now cmds r (mem_of_filter_eq_cons hq').1 hdue
  rw [(iter_tail s now pkts cmds).1]
  exact ⟨st', h0, hr, fun o h => tailOuts_in_iter s now pkts cmds o (ho o h), hf K hq'⟩

/-- after the command that starts or stops the search, what it queued for later is what is queued
    of the search at the end of the iteration -/
theorem iter_requeued (K : Bool × BList) (new : List Rerun) (s : State) (now : Nat) (pkts : List Packet)
    (pre : List Command) (c : Command) (post : List Command) (hc : post.all (fun c => !touches K c) = true)
    (hr : Requeues K new (runCommands (preCommands s now pkts) now pre).1
      (execCommand (runCommands (preCommands s now pkts) now pre).1 now c).1)
    (hnew : ∀ r ∈ new, skey r.cmd = some K) (h : ∀ y ∈ new, now < y.next) :
    (Client.iter s now pkts (pre ++ c :: post)).1.reruns.filter (fun y => skey y.cmd == some K) = new := by
  rw [(iter_split s now pkts pre c post).1]
  exact tail_waiting K _ now post hc (hr.filter_self hnew) h

/-- the retransmission schedule of the browse of `ty`: the query number `k` (the one of the call
    is number 0) went out at `t`; the next one is queued for `t + delay k` seconds and carries
    the delay `delay (k + 1)` -/
def BrowseSched (ty : BList) (ch t k : Nat) (s : State) : Prop :=
  s.reruns.filter (fun r => skey r.cmd == some (false, ty)) =
    [⟨t + Delay.delay k * 1000, .browse ty (Delay.delay (k + 1)) ch⟩]

theorem nextDelay_eq (d : Nat) : Sched.nextDelay d = Delay.nextDelay d := rfl

/-! for `C04.followups_at_500_1000_1500`, which imports this file -/

/-- an iteration without datagram does not give an instance an SRV entry: no cache operation of
    the later phases adds a key to a table -/
theorem srv_none_quiet (s : State) (now : Nat) (cmds : List Command) (inst : BList) (h : s.cache.srv.get inst = none) :
    (Client.iter s now [] cmds).1.cache.srv.get inst = none := by
  rw [Table.get_eq_none_iff] at h ⊢
  have hc := phasesClosed_of_tables (now := now) (T := fun sl t => sl = Slot.srv → inst ∉ t.keys)
    (fun _ t k h e hm => h e ((keys_erase_sublist t k).subset hm))
    (fun _ _ t k h e => (keys_modify t k _).symm ▸ h e) (fun _ t k h e => (keys_modify t k _).symm ▸ h e)
    (fun _ _ t k h e => (keys_modify t k _).symm ▸ h e)
    (fun _ t h e hm => h e ((keys_evictTable_sublist now t).subset hm))
  have h0 : ∀ sl, sl = Slot.srv → inst ∉ ((preCommands s now []).cache.table sl).keys := fun sl e => e ▸ h
  rw [iter_fst, runIpCheck_cache, preIp_eq]
  exact closed_evictPhases hc _ (closed_preEvict hc s [] cmds h0) Slot.srv rfl

end Mdns.Client
