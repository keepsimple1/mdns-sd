import Mdns.Lemmas.ClientPhases
import Mdns.Lemmas.Cache
/-
  Lemmas about the client model (`Mdns/Model/Client.lean`): which cache entries an operation
  can produce (`Low`: the same record with an expiry that was only lowered), one walk through
  the cache operations table by table, how a predicate on caches passes the phases
  (`PhasesClosed`), the provenance invariant `CacheProv`, and the origin of `resolved` /
  `removed` outputs.
-/
namespace Mdns.Client
open Mdns Mdns.Rec Mdns.Cache

/-- `e'` is `e` with a possibly earlier expiry and any refresh mark (what flushing,
    verification and the refresh look-ups do to an entry) -/
def Low (e e' : Entry) : Prop :=
  e'.record.name = e.record.name ∧ e'.record.ty = e.record.ty ∧ e'.record.cls = e.record.cls ∧
  e'.record.flush = e.record.flush ∧ e'.record.rdata = e.record.rdata ∧ e'.record.created = e.record.created ∧
  e'.record.ttl = e.record.ttl ∧ e'.record.expires ≤ e.record.expires

theorem Low.refl (e : Entry) : Low e e := ⟨rfl, rfl, rfl, rfl, rfl, rfl, rfl, Nat.le_refl _⟩

theorem Low.trans {a b c : Entry} (h1 : Low a b) (h2 : Low b c) : Low a c := by
  obtain ⟨a1, a2, a3, a4, a5, a6, a7, a8⟩ := h1
  obtain ⟨b1, b2, b3, b4, b5, b6, b7, b8⟩ := h2
  exact ⟨b1.trans a1, b2.trans a2, b3.trans a3, b4.trans a4, b5.trans a5, b6.trans a6, b7.trans a7, Nat.le_trans b8 a8⟩

/-- every entry of `es'` stems from one of `es` -/
def ListLow (es es' : List Entry) : Prop := ∀ e' ∈ es', ∃ e ∈ es, Low e e'

def TableLow (t t' : Table) : Prop := ∀ p' ∈ t', ∀ e' ∈ p'.2, ∃ p ∈ t, p.1 = p'.1 ∧ ∃ e ∈ p.2, Low e e'

def CacheLow (c c' : Cache) : Prop := ∀ s : Slot, TableLow (c.table s) (c'.table s)

theorem ListLow.refl (es : List Entry) : ListLow es es := fun e he => ⟨e, he, Low.refl e⟩

theorem ListLow.map (g : Entry → Entry) (hg : ∀ e, Low e (g e)) (es : List Entry) : ListLow es (es.map g) := by
  intro e' he'
  obtain ⟨e, he, rfl⟩ := List.mem_map.mp he'
  exact ⟨e, he, hg e⟩

theorem ListLow.filter (q : Entry → Bool) (es : List Entry) : ListLow es (es.filter q) :=
  fun e he => ⟨e, (List.mem_filter.mp he).1, Low.refl e⟩

theorem TableLow.refl (t : Table) : TableLow t t := fun p hp e he => ⟨p, hp, rfl, e, he, Low.refl e⟩

theorem TableLow.trans {a b c : Table} (h1 : TableLow a b) (h2 : TableLow b c) : TableLow a c := by
  intro p hp e he
  obtain ⟨q, hq, k1, f, hf, l1⟩ := h2 p hp e he
  obtain ⟨r, hr, k2, g, hg, l2⟩ := h1 q hq f hf
  exact ⟨r, hr, k2.trans k1, g, hg, l2.trans l1⟩

theorem CacheLow.refl (c : Cache) : CacheLow c c := fun _ => TableLow.refl _

theorem CacheLow.trans {a b c : Cache} (h1 : CacheLow a b) (h2 : CacheLow b c) : CacheLow a c :=
  fun s => (h1 s).trans (h2 s)

theorem TableLow.modify (t : Table) (k : BList) (f : List Entry → List Entry) (hf : ∀ es, ListLow es (f es)) :
    TableLow t (t.modify k f) := by
  intro p' hp' e' he'
  simp only [Table.modify, List.mem_map] at hp'
  obtain ⟨p, hp, rfl⟩ := hp'
  by_cases hk : (p.1 == k) = true
  · simp only [hk, if_true] at he'
    obtain ⟨e, he, l⟩ := hf p.2 e' he'
    exact ⟨p, hp, by simp [hk], e, he, l⟩
  · simp only [hk] at he'
    exact ⟨p, hp, by simp [hk], e', he', Low.refl e'⟩

theorem TableLow.erase (t : Table) (k : BList) : TableLow t (t.erase k) := by
  intro p hp e he
  exact ⟨p, (List.mem_filter.mp hp).1, rfl, e, he, Low.refl e⟩

theorem TableLow.evictTable (now : Nat) (t : Table) : TableLow t (evictTable now t) := by
  intro p' hp' e' he'
  simp only [Cache.evictTable, List.mem_filter, List.mem_map] at hp'
  obtain ⟨⟨p, hp, rfl⟩, _⟩ := hp'
  exact ⟨p, hp, rfl, e', (List.mem_filter.mp he').1, Low.refl e'⟩

theorem evictServices_fst (c : Cache) (now : Nat) :
    (evictServices c now).1 =
      { c with ptr := evictTable now c.ptr, srv := evictTable now c.srv, txt := evictTable now c.txt,
               nsec := evictTable now c.nsec } := by
  simp only [evictServices, evictLive_eq_evictTable]

/-! ### the cache operations of the phases after ingress, table by table

  Apart from `add_or_update` they erase names, map the entries of a name and evict: a family
  `T` of predicates on the five tables that survives these steps survives the operations. -/

section
variable {T : Slot → Table → Prop}

theorem tables_intro {c : Cache} (h1 : T .ptr c.ptr) (h2 : T .srv c.srv) (h3 : T .txt c.txt) (h4 : T .addr c.addr)
    (h5 : T .nsec c.nsec) : ∀ sl, T sl (c.table sl)
  | .ptr => h1
  | .srv => h2
  | .txt => h3
  | .addr => h4
  | .nsec => h5

theorem foldl_closed {α β} {P : β → Prop} (f : β → α → β) (hf : ∀ b a, P b → P (f b a)) :
    ∀ (l : List α) (b : β), P b → P (l.foldl f b)
  | [], _, h => h
  | a :: l, b, h => foldl_closed f hf l (f b a) (hf b a h)

/-- `add_or_update` sets one name of one table: to what it held (the key `entry(..).or_default()`
    creates), or to its entries flushed and the incoming record put in -/
theorem tables_addOrUpdate (c : Cache) (srcName : BList) (srcIdx : Nat) (inc : Record) (now : Nat) (forUs : Bool)
    (hset : ∀ sl t, slotOf inc.ty = some sl → T sl t →
      T sl (t.set (keyOf sl inc.name) ((t.get (keyOf sl inc.name)).getD [])) ∧
      T sl (t.set (keyOf sl inc.name)
        (upsert srcName srcIdx inc (flushList inc now ((t.get (keyOf sl inc.name)).getD [])))))
    (h : ∀ sl, T sl (c.table sl)) : ∀ sl, T sl ((addOrUpdate c srcName srcIdx inc now forUs).cache.table sl) := by
  have h1 : ∀ sl, T sl ((noteSubtype c inc forUs).table sl) := fun sl => (noteSubtype_table c inc forUs sl).symm ▸ h sl
  unfold addOrUpdate
  split
  · exact h1
  · rename_i s hs
    simp only []
    split
    · intro s'
      rw [setTable_table]
      split
      · rename_i hss
        exact hss ▸ (hset s _ hs (h1 s)).1
      · exact h1 s'
    · intro s'
      rw [setTable_table]
      split
      · rename_i hss
        exact hss ▸ (hset s _ hs (h1 s)).2
      · exact h1 s'

theorem tables_removeServiceType (herase : ∀ sl t k, T sl t → T sl (t.erase k)) (c : Cache) (ty : BList)
    (h : ∀ sl, T sl (c.table sl)) : ∀ sl, T sl ((removeServiceType c ty).table sl) := by
  unfold removeServiceType
  split
  · exact h
  · refine tables_intro (herase _ _ _ (h .ptr)) (foldl_closed _ (fun t i => herase _ t i) _ _ (h .srv))
      (foldl_closed _ (fun t i => herase _ t i) _ _ (h .txt)) (foldl_closed _ (fun t hst ht => ?_) _ _ (h .addr)) (h .nsec)
    split
    · exact ht
    · exact herase _ t hst ht

theorem tables_serviceVerifyQueries (c : Cache) (inst : BList) (at_ : Option Nat)
    (hsooner : ∀ d, at_ = some d → ∀ sl t k, T sl t → T sl (t.modify k fun es => es.map (soonerEntry d)))
    (h : ∀ sl, T sl (c.table sl)) : ∀ sl, T sl ((serviceVerifyQueries c inst at_).1.table sl) := by
  unfold serviceVerifyQueries
  split
  · exact h
  · split
    · exact h
    · rename_i d
      exact tables_intro (h .ptr) (hsooner d rfl _ _ _ (h .srv)) (h .txt)
        (foldl_closed _ (fun t k => hsooner d rfl _ t k) _ _ (h .addr)) (h .nsec)

variable {now : Nat} (hrefresh : ∀ sl t k, T sl t → T sl (t.modify k fun es => (refreshEntries now es).1))
include hrefresh

theorem tables_refreshDuePtr (c : Cache) (ty : BList) (h : ∀ sl, T sl (c.table sl)) :
    ∀ sl, T sl ((refreshDuePtr c ty now).1.table sl) := by
  unfold refreshDuePtr
  split
  · exact h
  · exact tables_intro (hrefresh _ _ _ (h .ptr)) (h .srv) (h .txt) (h .addr) (h .nsec)

theorem tables_refreshSrvTxtGo : ∀ (l : List BList) (s : SrvTxtDue), (∀ sl, T sl (s.cache.table sl)) →
    ∀ sl, T sl ((refreshSrvTxtGo now l s).cache.table sl)
  | [], _, h => h
  | inst :: rest, s, h => by
    unfold refreshSrvTxtGo
    exact tables_refreshSrvTxtGo rest _
      (tables_intro (h .ptr) (hrefresh _ _ _ (h .srv)) (hrefresh _ _ _ (h .txt)) (h .addr) (h .nsec))

theorem tables_refreshHostsGo : ∀ (l : List BList) (s : HostsDue), (∀ sl, T sl (s.cache.table sl)) →
    ∀ sl, T sl ((refreshHostsGo now l s).cache.table sl)
  | [], _, h => h
  | hst :: rest, s, h => by
    unfold refreshHostsGo
    exact tables_refreshHostsGo rest _ (tables_intro (h .ptr) (h .srv) (h .txt) (hrefresh _ _ _ (h .addr)) (h .nsec))

omit hrefresh

theorem tables_refreshDueResolutions
    (hnomore : ∀ (due : Entry → Bool) sl t k, T sl t →
      T sl (t.modify k fun es => es.map fun e => if due e then { e with record := e.record.refreshNoMore } else e))
    (c : Cache) (host : BList) (h : ∀ sl, T sl (c.table sl)) :
    ∀ sl, T sl ((refreshDueResolutions c host now).1.table sl) :=
  tables_intro (h .ptr) (h .srv) (h .txt) (hnomore _ _ _ _ (h .addr)) (h .nsec)

variable (hevict : ∀ sl t, T sl t → T sl (evictTable now t))
include hevict

theorem tables_evictServices (c : Cache) (h : ∀ sl, T sl (c.table sl)) :
    ∀ sl, T sl ((evictServices c now).1.table sl) := by
  rw [evictServices_fst]
  exact tables_intro (hevict _ _ (h .ptr)) (hevict _ _ (h .srv)) (hevict _ _ (h .txt)) (h .addr) (hevict _ _ (h .nsec))

theorem tables_evictAddr (c : Cache) (h : ∀ sl, T sl (c.table sl)) : ∀ sl, T sl ((evictAddr c now).1.table sl) :=
  tables_intro (h .ptr) (h .srv) (h .txt) (hevict _ _ (h .addr)) (h .nsec)

end

theorem low_refreshed (now : Nat) (e : Entry) : Low e { e with record := e.record.refreshed now } := by
  unfold Record.refreshed
  split <;> exact ⟨rfl, rfl, rfl, rfl, rfl, rfl, rfl, Nat.le_refl _⟩

theorem listLow_refreshEntries (now : Nat) (es : List Entry) : ListLow es (refreshEntries now es).1 :=
  ListLow.map _ (low_refreshed now) es

theorem low_sooner (t : Nat) (e : Entry) : Low e (soonerEntry t e) := by
  unfold soonerEntry Record.setExpireSooner
  split
  · exact ⟨rfl, rfl, rfl, rfl, rfl, rfl, rfl, by simp only [Record.setExpire]; omega⟩
  · exact Low.refl e

/-- a record handed to `add_or_update`: when, on which interface, what -/
structure Delivery where
  time : Nat
  ifName : BList
  ifIdx : Nat
  wire : Wire.Rec
  deriving Repr

/-- The delivery `d` justifies the cache entry `e`: same owner, type, class, cache-flush bit
    and RDATA (for an address including the interface it arrived on), created at the time of
    the delivery, with its TTL (0 is stored as 1 by the decoder), and expiring no later than
    that TTL allows. -/
def Justifies (d : Delivery) (e : Entry) : Prop :=
  e.record.name = d.wire.name ∧ e.record.ty = d.wire.ty ∧ e.record.cls = d.wire.cls ∧ e.record.flush = d.wire.flush ∧
  e.record.rdata = (ofWire d.ifName d.ifIdx d.time d.wire).rdata ∧
  e.record.created = d.time ∧ e.record.ttl = d.wire.ttl ∧ e.record.expires ≤ d.time + 1000 * d.wire.ttl

def Prov (hist : List Delivery) (e : Entry) : Prop := ∃ d ∈ hist, Justifies d e

/-- the entry is filed where `add_or_update` files a record of its name and type -/
def Filed (s : Slot) (k : BList) (e : Entry) : Prop := slotOf e.record.ty = some s ∧ keyOf s e.record.name = k

/-- **Provenance invariant**: every entry of every table of the cache is justified by a
    delivery of the history, and is filed in the table of its type under its own name
    (lower-cased for addresses). -/
def CacheProv (hist : List Delivery) (c : Cache) : Prop :=
  ∀ s : Slot, ∀ p ∈ c.table s, ∀ e ∈ p.2, Prov hist e ∧ Filed s p.1 e

theorem Filed.low {s : Slot} {k : BList} {e e' : Entry} (h : Filed s k e) (l : Low e e') : Filed s k e' := by
  unfold Filed at *
  rw [l.1, l.2.1]
  exact h

theorem Prov.low {hist : List Delivery} {e e' : Entry} (h : Prov hist e) (l : Low e e') : Prov hist e' := by
  obtain ⟨d, hd, j1, j2, j3, j4, j5, j6, j7, j8⟩ := h
  obtain ⟨l1, l2, l3, l4, l5, l6, l7, l8⟩ := l
  exact ⟨d, hd, l1.trans j1, l2.trans j2, l3.trans j3, l4.trans j4, l5.trans j5, l6.trans j6, l7.trans j7,
    Nat.le_trans l8 j8⟩

theorem Prov.mono {h1 h2 : List Delivery} (hsub : ∀ d ∈ h1, d ∈ h2) {e : Entry} (h : Prov h1 e) : Prov h2 e := by
  obtain ⟨d, hd, j⟩ := h
  exact ⟨d, hsub d hd, j⟩

theorem CacheProv.low {hist : List Delivery} {c c' : Cache} (h : CacheProv hist c) (l : CacheLow c c') :
    CacheProv hist c' := by
  intro s p hp e he
  obtain ⟨q, hq, hk, f, hf, lo⟩ := l s p hp e he
  exact ⟨(h s q hq f hf).1.low lo, hk ▸ (h s q hq f hf).2.low lo⟩

theorem CacheProv.mono {h1 h2 : List Delivery} (hsub : ∀ d ∈ h1, d ∈ h2) {c : Cache} (h : CacheProv h1 c) :
    CacheProv h2 c := fun s p hp e he => ⟨(h s p hp e he).1.mono hsub, (h s p hp e he).2⟩

theorem cacheProv_empty (hist : List Delivery) : CacheProv hist {} := by
  intro s p hp
  cases s <;> simp [Cache.table] at hp

theorem lookup_mem {α β} [BEq α] [LawfulBEq α] (l : List (α × β)) (k : α) (v : β) (h : l.lookup k = some v) : (k, v) ∈ l := by
  obtain ⟨l1, l2, rfl, _⟩ := List.lookup_eq_some_iff.mp h
  simp

/-- the entries found under a name are entries of the table, filed under that name -/
theorem mem_getD (t : Table) (k : BList) (e : Entry) (h : e ∈ (t.get k).getD []) : ∃ p ∈ t, p.1 = k ∧ e ∈ p.2 := by
  cases hg : t.get k with
  | none => simp [hg] at h
  | some es =>
    rw [hg] at h
    exact ⟨(k, es), lookup_mem t k es hg, rfl, h⟩

theorem listLow_flushList (inc : Record) (now : Nat) (es : List Entry) : ListLow es (flushList inc now es) := by
  unfold flushList
  split
  · apply ListLow.map
    intro e
    unfold flushOne
    split
    · rename_i hf
      have := (shouldFlush_iff inc now e).mp hf
      refine ⟨rfl, rfl, rfl, rfl, rfl, rfl, rfl, ?_⟩
      simp only [Record.setExpire]
      have := this.2.2.2.1
      omega
    · exact Low.refl e
  · exact ListLow.refl es

theorem mem_resetFirst (inc : Record) (es : List Entry) (e' : Entry) (h : e' ∈ resetFirst inc es) :
    e' ∈ es ∨ ∃ e ∈ es, e.record.matchesRec inc = true ∧ e' = { e with record := e.record.resetTtl inc } := by
  induction es with
  | nil => simp [resetFirst] at h
  | cons x rest ih =>
    simp only [resetFirst] at h
    split at h
    · rename_i hm
      rcases List.mem_cons.mp h with h | h
      · exact Or.inr ⟨x, List.mem_cons_self, hm, h⟩
      · exact Or.inl (List.mem_cons_of_mem _ h)
    · rcases List.mem_cons.mp h with h | h
      · exact Or.inl (h ▸ List.mem_cons_self)
      · rcases ih h with h | ⟨e, he, hm, rfl⟩
        · exact Or.inl (List.mem_cons_of_mem _ h)
        · exact Or.inr ⟨e, List.mem_cons_of_mem _ he, hm, rfl⟩

theorem justifies_fresh (d : Delivery) (srcName : BList) (srcIdx : Nat) :
    Justifies d ⟨ofWire d.ifName d.ifIdx d.time d.wire, srcName, srcIdx⟩ := by
  refine ⟨rfl, rfl, rfl, rfl, rfl, rfl, rfl, ?_⟩
  simp only [ofWire, Record.new, expTime]
  omega

theorem justifies_reset (d : Delivery) (e : Entry)
    (hm : e.record.matchesRec (ofWire d.ifName d.ifIdx d.time d.wire) = true) :
    Justifies d { e with record := e.record.resetTtl (ofWire d.ifName d.ifIdx d.time d.wire) } := by
  obtain ⟨h1, h2, h3, h4, h5⟩ := (matchesRec_iff _ _).mp hm
  refine ⟨h1, h2, h3, h4, h5, rfl, rfl, ?_⟩
  simp only [Record.resetTtl, ofWire, Record.new, expTime]
  omega

theorem prov_upsert (hist : List Delivery) (d : Delivery) (hd : d ∈ hist) (srcName : BList) (srcIdx : Nat)
    (s : Slot) (k : BList) (hs : slotOf d.wire.ty = some s) (hk : keyOf s d.wire.name = k)
    (es : List Entry) (h : ∀ e ∈ es, Prov hist e ∧ Filed s k e) :
    ∀ e' ∈ upsert srcName srcIdx (ofWire d.ifName d.ifIdx d.time d.wire)
      (flushList (ofWire d.ifName d.ifIdx d.time d.wire) d.time es), Prov hist e' ∧ Filed s k e' := by
  have hfl : ∀ e ∈ flushList (ofWire d.ifName d.ifIdx d.time d.wire) d.time es, Prov hist e ∧ Filed s k e := by
    intro e he
    obtain ⟨e0, he0, lo⟩ := listLow_flushList _ _ es e he
    exact ⟨(h e0 he0).1.low lo, (h e0 he0).2.low lo⟩
  intro e' he'
  unfold upsert at he'
  split at he'
  · rcases mem_resetFirst _ _ _ he' with h1 | ⟨e, he, hm, rfl⟩
    · exact hfl e' h1
    · exact ⟨⟨d, hd, justifies_reset d e hm⟩, (hfl e he).2⟩
  · rcases List.mem_cons.mp he' with rfl | h1
    · exact ⟨⟨d, hd, justifies_fresh d srcName srcIdx⟩, hs, hk⟩
    · exact hfl e' h1

theorem cacheProv_addOrUpdate (hist : List Delivery) (c : Cache) (d : Delivery) (hd : d ∈ hist) (forUs : Bool)
    (h : CacheProv hist c) :
    CacheProv hist (addOrUpdate c d.ifName d.ifIdx (ofWire d.ifName d.ifIdx d.time d.wire) d.time forUs).cache := by
  refine tables_addOrUpdate (T := fun s t => ∀ p ∈ t, ∀ e ∈ p.2, Prov hist e ∧ Filed s p.1 e) c _ _ _ _ forUs
    (fun s t hs ht => ?_) h
  have hold : ∀ e ∈ (t.get (keyOf s d.wire.name)).getD [], Prov hist e ∧ Filed s (keyOf s d.wire.name) e := by
    intro e he
    obtain ⟨q, hq, hqk, hqe⟩ := mem_getD _ _ e he
    exact hqk ▸ ht q hq e hqe
  refine ⟨fun p hp e he => ?_, fun p hp e he => ?_⟩
  · rcases Table.mem_set _ _ _ _ hp with rfl | hp
    · exact hold e he
    · exact ht p hp e he
  · rcases Table.mem_set _ _ _ _ hp with rfl | hp
    · exact prov_upsert hist d hd _ _ s _ hs rfl _ hold e he
    · exact ht p hp e he

@[simp] theorem addPending_cache (s : State) (now : Nat) (i : BList) : (addPending s now i).cache = s.cache := by
  unfold addPending
  split <;> rfl

@[simp] theorem addPendings_cache (now : Nat) : ∀ (l : List BList) (s : State), (addPendings s now l).cache = s.cache
  | [], _ => rfl
  | i :: rest, s => by
    simp only [addPendings]
    rw [addPendings_cache now rest, addPending_cache]

@[simp] theorem resolveUpdated_cache (s : State) (now : Nat) (u : List BList) :
    (resolveUpdated s now u).1.cache = s.cache := by
  unfold resolveUpdated
  split
  · rfl
  · simp only [addPendings_cache, markResolved_cache]

@[simp] theorem queryCacheForService_cache (s : State) (now : Nat) (ty : BList) (ch : Nat) :
    (queryCacheForService s now ty ch).1.cache = s.cache := by
  simp only [queryCacheForService, addPendings_cache, markResolved_cache]

theorem execBrowse_cache (s : State) (now : Nat) (rep : Bool) (ty : BList) (d : Nat) (co : Bool) (ch : Nat) :
    (execBrowse s now rep ty d co ch).1.cache = s.cache := by
  unfold execBrowse
  cases rep
  · simp only [Bool.false_eq_true, if_false]
    split
    · exact queryCacheForService_cache _ now ty ch
    · simp only [addRerun_cache, queryCacheForService_cache]
  · simp only [if_true]
    split
    · rfl
    · rfl

theorem execResolveHost_cache (s : State) (now : Nat) (rep : Bool) (host : BList) (d ch : Nat) (t : Option Nat) :
    (execResolveHost s now rep host d ch t).1.cache = s.cache := by
  cases rep
  · rw [execResolveHost_new]
    simp only [apply_ite State.cache, addRerun_cache, ite_self]
  · rw [execResolveHost_rep]
    split
    · rfl
    · simp only [apply_ite State.cache, addRerun_cache, ite_self]

theorem execRerun_cache (s : State) (now : Nat) (c : RCmd) : (execRerun s now c).1.cache = s.cache := by
  obtain ⟨rs, ts, h⟩ := execRerun_fst s now c
  rw [h]

/-- Why `evict_expired_services` reports `(ty, inst)` at `now` on the cache `c`: a PTR entry of
    `ty` points to `inst` and either that entry has expired, or the instance has SRV entries
    and all of them have expired. -/
def EvictWhy (c : Cache) (now : Nat) (ty inst : BList) : Prop :=
  ∃ es, (ty, es) ∈ c.ptr ∧ ∃ e ∈ es, aliasOf e = some inst ∧
    (e.record.expires ≤ now ∨ ∃ l, c.srv.get inst = some l ∧ ∀ x ∈ l, x.record.expires ≤ now)

/-- Why `resolve_updated_instances` reports `(ty, inst)` in state `s`: the instance had been
    reported resolved, a usable PTR of the browsed `ty` still points to it, and it can no
    longer be resolved from the cache (no usable SRV, or no usable address of its host). -/
def UnresolveWhy (s : State) (now : Nat) (ty inst : BList) : Prop :=
  inst ∈ s.resolved ∧ (∃ es, (ty, es) ∈ s.cache.ptr ∧ ∃ e ∈ es, aliasOf e = some inst ∧ usable now e = true) ∧
  (resolveFromCache s.cache now ty inst).valid = false

-- the reason for a `ServiceRemoved`, on a cache satisfying `P`: eviction or no longer resolvable
def RemovedWhy (P : Cache → Prop) (now : Nat) (ty inst : BList) : Prop :=
  (∃ c, P c ∧ EvictWhy c now ty inst) ∨ (∃ s' : State, P s'.cache ∧ UnresolveWhy s' now ty inst)

/-- Every `ServiceResolved` among `outs` is the result of `resolve_service_from_cache` on a
    cache satisfying `P`, and it is valid; every `ServiceRemoved` has one of the two reasons
    above on a cache satisfying `P`. -/
def OutsOk (P : Cache → Prop) (now : Nat) (outs : List Out) : Prop :=
  (∀ ch r, Out.event ch (.resolved r) ∈ outs →
    ∃ c ty inst, P c ∧ r = resolveFromCache c now ty inst ∧ r.valid = true) ∧
  (∀ ch ty inst, Out.event ch (.removed ty inst) ∈ outs → RemovedWhy P now ty inst)

/-- neither `ServiceResolved` nor `ServiceRemoved` among `outs` -/
def NoRes (outs : List Out) : Prop :=
  (∀ ch r, Out.event ch (.resolved r) ∉ outs) ∧ (∀ ch ty inst, Out.event ch (.removed ty inst) ∉ outs)

theorem NoRes.ok {P : Cache → Prop} {now : Nat} {outs : List Out} (h : NoRes outs) : OutsOk P now outs :=
  ⟨fun ch r hm => absurd hm (h.1 ch r), fun ch ty inst hm => absurd hm (h.2 ch ty inst)⟩

theorem OutsOk.nil (P : Cache → Prop) (now : Nat) : OutsOk P now [] :=
  ⟨fun _ _ h => (by cases h), fun _ _ _ h => (by cases h)⟩

theorem OutsOk.append {P : Cache → Prop} {now : Nat} {a b : List Out} (ha : OutsOk P now a) (hb : OutsOk P now b) :
    OutsOk P now (a ++ b) := by
  refine ⟨?_, ?_⟩
  · intro ch r h
    rcases List.mem_append.mp h with h | h
    · exact ha.1 ch r h
    · exact hb.1 ch r h
  · intro ch ty inst h
    rcases List.mem_append.mp h with h | h
    · exact ha.2 ch ty inst h
    · exact hb.2 ch ty inst h

theorem RemovedWhy.mono {P Q : Cache → Prop} (hPQ : ∀ c, P c → Q c) {now : Nat} {ty inst : BList}
    (h : RemovedWhy P now ty inst) : RemovedWhy Q now ty inst := by
  rcases h with ⟨c, hc, hw⟩ | ⟨s', hc, hw⟩
  · exact Or.inl ⟨c, hPQ c hc, hw⟩
  · exact Or.inr ⟨s', hPQ _ hc, hw⟩

theorem OutsOk.mono {P Q : Cache → Prop} (hPQ : ∀ c, P c → Q c) {now : Nat} {outs : List Out} (h : OutsOk P now outs) :
    OutsOk Q now outs := by
  refine ⟨?_, fun ch ty inst hm => (h.2 ch ty inst hm).mono hPQ⟩
  intro ch r hm
  obtain ⟨c, ty, inst, hc, h1, h2⟩ := h.1 ch r hm
  exact ⟨c, ty, inst, hPQ c hc, h1, h2⟩

/-- the events that report what the cache holds: `ServiceResolved`, `ServiceRemoved`,
    `AddressesFound`, `AddressesRemoved` -/
def Ev.reports : Ev → Bool
  | .resolved _ | .removed _ _ | .hfound _ _ | .hremoved _ _ => true
  | _ => false

def Out.plain : Out → Prop
  | .query _ _ => True
  | .event _ e => e.reports = false

/-- only queries and events that report nothing of the cache: most phases emit nothing else -/
def Plain (outs : List Out) : Prop := ∀ o ∈ outs, o.plain

theorem Plain.nil : Plain [] := fun _ h => nomatch h

theorem Plain.append {a b : List Out} (ha : Plain a) (hb : Plain b) : Plain (a ++ b) := fun o h =>
  (List.mem_append.mp h).elim (ha o) (hb o)

theorem Plain.single {o : Out} (h : o.plain) : Plain [o] := fun _ hm => List.mem_singleton.mp hm ▸ h

theorem Plain.map {α} {l : List α} {f : α → Out} (h : ∀ a, (f a).plain) : Plain (l.map f) := fun _ hm =>
  let ⟨a, _, e⟩ := List.mem_map.mp hm
  e ▸ h a

theorem plain_sendQuery (c : Cache) (now : Nat) (qs : List (BList × Nat)) : (sendQuery c now qs).plain := trivial

theorem plain_event {ch : Nat} {e : Ev} (h : e.reports = false) : (Out.event ch e).plain := h

theorem Plain.noRes {outs : List Out} (h : Plain outs) : NoRes outs :=
  ⟨fun _ _ hm => Bool.noConfusion (show true = false from h _ hm),
   fun _ _ _ hm => Bool.noConfusion (show true = false from h _ hm)⟩

theorem NoRes.append {a b : List Out} (ha : NoRes a) (hb : NoRes b) : NoRes (a ++ b) :=
  ⟨fun ch r h => (List.mem_append.mp h).elim (ha.1 ch r) (hb.1 ch r),
   fun ch ty inst h => (List.mem_append.mp h).elim (ha.2 ch ty inst) (hb.2 ch ty inst)⟩

theorem noRes_map_sendQuery {α} (l : List α) (f : α → Cache × List (BList × Nat)) (now : Nat) :
    NoRes (l.map fun a => sendQuery (f a).1 now (f a).2) :=
  (Plain.map fun _ => plain_sendQuery _ _ _).noRes

theorem Plain.ok {P : Cache → Prop} {now : Nat} {outs : List Out} (h : Plain outs) : OutsOk P now outs := h.noRes.ok

theorem mem_notifyRemoval (q : List (BList × Nat)) (e : List (BList × BList)) (ch : Nat) (ty inst : BList)
    (h : Out.event ch (.removed ty inst) ∈ notifyRemoval q e) : (ty, inst) ∈ e ∧ (ty, ch) ∈ q := by
  simp only [notifyRemoval, List.mem_flatMap, List.mem_map, List.mem_eraseDups, List.mem_filter] at h
  obtain ⟨qq, hq, i, ⟨pp, ⟨hp, hk⟩, hi⟩, he⟩ := h
  cases he
  have hk' : pp.1 = qq.1 := by simpa using hk
  subst hi
  refine ⟨?_, hq⟩
  rw [← hk']
  exact hp

theorem noResolved_notifyRemoval (q : List (BList × Nat)) (e : List (BList × BList)) (ch : Nat) (r : Resolved) :
    Out.event ch (.resolved r) ∉ notifyRemoval q e := by
  intro h
  simp [notifyRemoval] at h

theorem mem_visits (s : State) (now : Nat) (u : List BList) (v : BList × Nat × BList) (h : v ∈ visits s now u) :
    ∃ es, (v.1, es) ∈ s.cache.ptr ∧ ∃ e ∈ es, aliasOf e = some v.2.2 ∧ usable now e = true := by
  simp only [visits, List.mem_flatMap] at h
  obtain ⟨p, hp, hv⟩ := h
  split at hv
  · cases hv
  · simp only [List.mem_map, List.mem_filter, List.mem_filterMap] at hv
    obtain ⟨a, ⟨⟨e, ⟨he, huse⟩, ha⟩, _⟩, rfl⟩ := hv
    exact ⟨p.2, hp, e, he, ha, huse⟩

/-- `resolve_updated_instances`: its `ServiceResolved` events are valid results of
    `resolve_service_from_cache` on the current cache -/
theorem outsOk_resolveUpdated (P : Cache → Prop) (s : State) (now : Nat) (u : List BList) (h : P s.cache) :
    OutsOk P now (resolveUpdated s now u).2 := by
  unfold resolveUpdated
  split
  · exact OutsOk.nil P now
  · simp only []
    apply OutsOk.append
    · refine ⟨?_, ?_⟩
      · intro ch r hm
        simp only [List.mem_map, List.mem_filter] at hm
        obtain ⟨v, ⟨_, hv⟩, he⟩ := hm
        cases he
        exact ⟨s.cache, v.1, v.2.2, h, rfl, hv⟩
      · intro ch ty inst hm
        simp at hm
    · refine ⟨fun ch r hm => absurd hm (noResolved_notifyRemoval _ _ ch r), ?_⟩
      intro ch ty inst hm
      have hm' := (mem_notifyRemoval _ _ ch ty inst hm).1
      simp only [List.mem_map, List.mem_filter] at hm'
      obtain ⟨v, ⟨⟨hv, hbad⟩, hres⟩, he⟩ := hm'
      cases he
      obtain ⟨es, hes, e, he, ha, huse⟩ := mem_visits s now u v hv
      refine Or.inr ⟨s, h, ?_, ⟨es, hes, e, he, ha, huse⟩, ?_⟩
      · simpa using hres
      · simpa [visitValid] using hbad

theorem outsOk_queryCacheForService (P : Cache → Prop) (s : State) (now : Nat) (ty : BList) (chn : Nat) (h : P s.cache) :
    OutsOk P now (queryCacheForService s now ty chn).2 := by
  refine ⟨?_, ?_⟩
  · intro ch r hm
    simp only [queryCacheForService, List.mem_flatMap, List.mem_append, List.mem_singleton] at hm
    obtain ⟨i, _, hm⟩ := hm
    rcases hm with hm | hm
    · cases hm
    · split at hm
      · rename_i hv
        simp only [List.mem_singleton] at hm
        cases hm
        exact ⟨s.cache, ty, i, h, rfl, hv⟩
      · cases hm
  · intro ch ty' inst hm
    simp only [queryCacheForService, List.mem_flatMap, List.mem_append, List.mem_singleton] at hm
    obtain ⟨i, _, hm⟩ := hm
    rcases hm with hm | hm
    · cases hm
    · split at hm
      · simp at hm
      · cases hm

/-- `P` survives every operation that only removes entries or lowers their expiry -/
def LowClosed (P : Cache → Prop) : Prop := ∀ c c', P c → CacheLow c c' → P c'

theorem lowClosed_cacheProv (hist : List Delivery) : LowClosed (CacheProv hist) := fun _ _ h l => h.low l

/-- a phase keeps `P` and emits only justified `ServiceResolved` and `ServiceRemoved` events (`OutsOk`) -/
def PhaseOk (P : Cache → Prop) (now : Nat) (r : State × List Out) : Prop := P r.1.cache ∧ OutsOk P now r.2

theorem mem_execBrowse_outs {s : State} {now : Nat} {rep : Bool} {ty : BList} {d : Nat} {co : Bool} {ch : Nat} {o : Out}
    (h : o ∈ (execBrowse s now rep ty d co ch).2) :
    o.plain ∨ (rep = false ∧ ∃ s' : State, s'.cache = s.cache ∧ o ∈ (queryCacheForService s' now ty ch).2) := by
  unfold execBrowse at h
  cases rep
  · simp only [Bool.false_eq_true, if_false] at h
    split at h
    · simp only [List.mem_append, List.mem_singleton] at h
      rcases h with (rfl | h) | rfl
      · exact Or.inl rfl
      · exact Or.inr ⟨rfl, _, rfl, h⟩
      · exact Or.inl rfl
    · simp only [List.mem_append, List.mem_singleton] at h
      rcases h with (rfl | h) | rfl
      · exact Or.inl rfl
      · exact Or.inr ⟨rfl, _, rfl, h⟩
      · exact Or.inl trivial
  · simp only [if_true] at h
    split at h
    · simp only [List.mem_append, List.mem_singleton, List.not_mem_nil, or_false] at h
      rcases h with rfl | rfl
      · exact Or.inl rfl
      · exact Or.inl rfl
    · simp only [List.mem_append, List.mem_singleton, List.not_mem_nil, or_false] at h
      rcases h with rfl | rfl
      · exact Or.inl rfl
      · exact Or.inl trivial

theorem mem_execResolveHost_outs {s : State} {now : Nat} {rep : Bool} {host : BList} {d ch : Nat} {t : Option Nat}
    {o : Out} (h : o ∈ (execResolveHost s now rep host d ch t).2) :
    o.plain ∨ (rep = false ∧ ∃ p ∈ addressesForHost s.cache now host, o = .event ch (.hfound p.1 p.2)) := by
  cases rep
  · rw [execResolveHost_new] at h
    simp only [List.mem_append, List.mem_singleton, List.mem_map] at h
    rcases h with (rfl | ⟨p, hp, rfl⟩) | rfl
    · exact Or.inl rfl
    · exact Or.inr ⟨rfl, p, hp, rfl⟩
    · exact Or.inl trivial
  · rw [execResolveHost_rep] at h
    split at h
    · cases h
    · simp only [List.mem_cons, List.not_mem_nil, or_false] at h
      rcases h with rfl | rfl
      · exact Or.inl rfl
      · exact Or.inl trivial

theorem plain_execStopBrowse (s : State) (ty : BList) : Plain (execStopBrowse s ty).2 := by
  unfold execStopBrowse
  split
  · exact .nil
  · exact .single rfl

theorem plain_execStopResolve (s : State) (host : BList) : Plain (execStopResolve s host).2 := by
  unfold execStopResolve
  simp only []
  split
  · exact .nil
  · exact .single rfl

theorem plain_execResolveInst (s : State) (now : Nat) (inst : BList) (k : Nat) : Plain (execResolveInst s now inst k).2 := by
  unfold execResolveInst
  split
  · exact .nil
  · exact .single (plain_sendQuery _ _ _)

theorem plain_execVerify (s : State) (now : Nat) (rep : Bool) (inst : BList) (t : Nat) :
    Plain (execVerify s now rep inst t).2 := by
  unfold execVerify
  cases rep
  · simp only [Bool.false_eq_true, if_false]
    split
    · exact .nil
    · exact .single (plain_sendQuery _ _ _)
  · simp only [if_true]
    split
    · exact .nil
    · exact .single (plain_sendQuery _ _ _)

theorem plain_execRerun (s : State) (now : Nat) (c : RCmd) : Plain (execRerun s now c).2 := by
  cases c with
  | browse ty d ch => exact fun o h => (mem_execBrowse_outs h).elim id fun h => nomatch h.1
  | resolveHost h d ch => exact fun o h => (mem_execResolveHost_outs h).elim id fun h => nomatch h.1
  | resolve inst k => exact plain_execResolveInst s now inst k
  | verify inst t => exact plain_execVerify s now true inst t

theorem plain_rerunPhase (s : State) (now : Nat) : Plain (rerunPhase s now).2 :=
  (rerunPhase_induct (P := fun _ => True) (Q := Out.plain) now
    (fun _ _ _ r _ _ _ => ⟨trivial, plain_execRerun _ now r.cmd⟩) s trivial).2

theorem plain_runTimeouts (s : State) (now : Nat) : Plain (runTimeouts s now).2 := by
  intro o h
  rw [runTimeouts_snd] at h
  obtain ⟨r, _, h⟩ := List.mem_flatMap.mp h
  simp only [List.mem_cons, List.not_mem_nil, or_false] at h
  rcases h with rfl | rfl
  · rfl
  · rfl

theorem plain_refreshType (c : Cache) (now : Nat) (ty : BList) : Plain (refreshType c now ty).2.1 := by
  simp only [refreshType]
  refine (Plain.append ?_ (.map fun _ => plain_sendQuery _ _ _)).append (.map fun _ => plain_sendQuery _ _ _)
  split
  · exact .nil
  · exact .single (plain_sendQuery _ _ _)

theorem plain_refreshTypes (now : Nat) : ∀ (l : List BList) (c : Cache), Plain (refreshTypes c now l).2.1
  | [], _ => .nil
  | ty :: rest, c => by
    simp only [refreshTypes]
    exact (plain_refreshType c now ty).append (plain_refreshTypes now rest _)

theorem plain_refreshResolversGo (now : Nat) : ∀ (l : List BList) (c : Cache), Plain (refreshResolversGo c now l).2
  | [], _ => .nil
  | h :: rest, c => by
    simp only [refreshResolversGo]
    exact (Plain.map fun _ => plain_sendQuery _ _ _).append (plain_refreshResolversGo now rest _)

/-- the re-run and refresh phases emit no event that reports cache contents -/
theorem plain_refreshPhases (y : State) (now : Nat) : Plain (refreshPhases y now).2 :=
  ((plain_rerunPhase y now).append (plain_refreshTypes now _ _)).append (plain_refreshResolversGo now _ _)

section
/-- `P` survives the cache operations of the phases after ingress, as an iteration at `now`
    performs them (a verification sets its deadline after `now`).  This is what the passage
    through the phases (`closed_preEvict`, `closed_evictPhases`) needs and what a new invariant
    should instantiate; ingress is separate (`closed_ingress`, from the `add_or_update` case alone).
    `CacheOpsClosed` (ClientFrame) is the stronger form that `closed_iter` takes and
    `C20.closed_run` states, with `add_or_update` of any record and any deadline;
    `CacheOpsClosed.phases` converts. -/
structure PhasesClosed (P : Cache → Prop) (now : Nat) : Prop where
  remove : ∀ c ty, P c → P (removeServiceType c ty)
  verify : ∀ c inst t, P c → P (serviceVerifyQueries c inst (some (now + t))).1
  refreshPtr : ∀ c ty, P c → P (refreshDuePtr c ty now).1
  refreshSrvTxt : ∀ c ty, P c → P (refreshDueSrvTxt c ty now).cache
  refreshHosts : ∀ c ty, P c → P (refreshDueHosts c ty now).cache
  refreshRes : ∀ c h, P c → P (refreshDueResolutions c h now).1
  evictS : ∀ c, P c → P (evictServices c now).1
  evictA : ∀ c, P c → P (evictAddr c now).1

variable {P : Cache → Prop} {now : Nat}

theorem phasesClosed_of_tables {T : Slot → Table → Prop} {now : Nat} (herase : ∀ sl t k, T sl t → T sl (t.erase k))
    (hsooner : ∀ d sl t k, T sl t → T sl (t.modify k fun es => es.map (soonerEntry (now + d))))
    (hrefresh : ∀ sl t k, T sl t → T sl (t.modify k fun es => (refreshEntries now es).1))
    (hnomore : ∀ (due : Entry → Bool) sl t k, T sl t →
      T sl (t.modify k fun es => es.map fun e => if due e then { e with record := e.record.refreshNoMore } else e))
    (hevict : ∀ sl t, T sl t → T sl (evictTable now t)) : PhasesClosed (fun c => ∀ sl, T sl (c.table sl)) now :=
  ⟨tables_removeServiceType herase,
   fun c inst d => tables_serviceVerifyQueries c inst _ fun _ e => Option.some.inj e ▸ hsooner d,
   tables_refreshDuePtr hrefresh, fun c _ => tables_refreshSrvTxtGo hrefresh _ { cache := c, due := [], timers := [] },
   fun c _ => tables_refreshHostsGo hrefresh _ { cache := c, due := [], timers := [] },
   tables_refreshDueResolutions hnomore,
   tables_evictServices hevict, tables_evictAddr hevict⟩

theorem cacheLow_phases (c : Cache) (now : Nat) : PhasesClosed (CacheLow c) now :=
  phasesClosed_of_tables (T := fun sl => TableLow (c.table sl))
    (fun _ t k h => h.trans (TableLow.erase t k))
    (fun _ _ t k h => h.trans (TableLow.modify t k _ fun es => ListLow.map _ (low_sooner _) es))
    (fun _ t k h => h.trans (TableLow.modify t k _ (listLow_refreshEntries now)))
    (fun _ _ t k h => h.trans (TableLow.modify t k _ fun es => ListLow.map _ (fun e => by
      split
      · exact ⟨rfl, rfl, rfl, rfl, rfl, rfl, rfl, Nat.le_refl _⟩
      · exact Low.refl e) es))
    (fun _ t h => h.trans (TableLow.evictTable now t))

theorem LowClosed.phases (h : LowClosed P) (now : Nat) : PhasesClosed P now :=
  ⟨fun c ty hp => h _ _ hp ((cacheLow_phases c now).remove c ty (.refl c)),
   fun c inst d hp => h _ _ hp ((cacheLow_phases c now).verify c inst d (.refl c)),
   fun c ty hp => h _ _ hp ((cacheLow_phases c now).refreshPtr c ty (.refl c)),
   fun c ty hp => h _ _ hp ((cacheLow_phases c now).refreshSrvTxt c ty (.refl c)),
   fun c ty hp => h _ _ hp ((cacheLow_phases c now).refreshHosts c ty (.refl c)),
   fun c hst hp => h _ _ hp ((cacheLow_phases c now).refreshRes c hst (.refl c)),
   fun c hp => h _ _ hp ((cacheLow_phases c now).evictS c (.refl c)),
   fun c hp => h _ _ hp ((cacheLow_phases c now).evictA c (.refl c))⟩

@[simp] theorem evictAddrHosts_cache (now : Nat) (items : List (BList × BList × BList × Nat)) :
    ∀ (hosts : List BList) (s : State), (evictAddrHosts s now items hosts).1.cache = s.cache
  | [], _ => rfl
  | h :: rest, s => by
    simp only [evictAddrHosts]
    rw [evictAddrHosts_cache now items rest, resolveUpdated_cache]

theorem closed_execCommand (h : PhasesClosed P now) (s : State) (c : Command) (hp : P s.cache) :
    P (execCommand s now c).1.cache := by
  cases c with
  | browse ty ch co =>
    simp only [execCommand]
    rw [execBrowse_cache]
    exact hp
  | stopBrowse ty =>
    simp only [execCommand, execStopBrowse]
    split
    · exact hp
    · exact h.remove _ ty hp
  | resolveHost h0 ch t =>
    simp only [execCommand]
    rw [execResolveHost_cache]
    exact hp
  | stopResolve h0 =>
    simp only [execCommand, execStopResolve]
    split <;> exact hp
  | ipInterval ms => exact hp
  | verify inst t =>
    have hc := h.verify s.cache inst t hp
    simp only [execCommand, execVerify, Bool.false_eq_true, if_false]
    split
    · exact hc
    · simpa using hc
  | metrics ch => exact hp
  | acceptUnsolicited on => exact hp

theorem closed_runCommands (h : PhasesClosed P now) (cmds : List Command) (s : State) (hp : P s.cache) :
    P (runCommands s now cmds).1.cache :=
  runCommands_induct (P := fun s => P s.cache) (ok := fun _ => True) now (fun s c _ => closed_execCommand h s c)
    cmds s (fun _ _ => trivial) hp

theorem closed_refreshTypes (h : PhasesClosed P now) : ∀ (l : List BList) (c : Cache), P c → P (refreshTypes c now l).1
  | [], _, hp => hp
  | ty :: rest, c, hp => by
    simp only [refreshTypes]
    apply closed_refreshTypes h rest
    simp only [refreshType]
    exact h.refreshHosts _ ty (h.refreshSrvTxt _ ty (h.refreshPtr c ty hp))

theorem closed_refreshResolversGo (h : PhasesClosed P now) : ∀ (l : List BList) (c : Cache), P c →
    P (refreshResolversGo c now l).1
  | [], _, hp => hp
  | hst :: rest, c, hp => by
    simp only [refreshResolversGo]
    exact closed_refreshResolversGo h rest _ (h.refreshRes c hst hp)

theorem closed_refreshPhases (h : PhasesClosed P now) (y : State) (hp : P y.cache) : P (refreshPhases y now).1.cache := by
  simp only [refreshPhases, refreshResolvers_fst, refreshActive_fst, addTimers_cache]
  exact closed_refreshResolversGo h _ _ (closed_refreshTypes h _ _ (by rw [rerunPhase_cache]; exact hp))

theorem closed_evictPhases (h : PhasesClosed P now) (z : State) (hp : P z.cache) : P (evictPhases z now).1.cache := by
  simp only [evictPhases, evictAddrPhase, evictAddrHosts_cache, evictServicesPhase_fst]
  exact h.evictA _ (h.evictS _ hp)

theorem closed_preEvict (h : PhasesClosed P now) (s : State) (pkts : List Packet) (cmds : List Command)
    (hp : P (preCommands s now pkts).cache) : P (preEvict s now pkts cmds).cache := by
  rw [preEvict_eq]
  exact closed_refreshPhases h _ (closed_runCommands h cmds _ hp)

end

theorem outsOk_execBrowse (P : Cache → Prop) (s : State) (now : Nat) (rep : Bool) (ty : BList) (d : Nat) (co : Bool)
    (ch : Nat) (hP : P s.cache) : OutsOk P now (execBrowse s now rep ty d co ch).2 := by
  refine ⟨fun c r hm => ?_, fun c ty' inst hm => ?_⟩
  · rcases mem_execBrowse_outs hm with h | ⟨_, s', hs, h⟩
    · cases h
    · exact (outsOk_queryCacheForService P s' now ty ch (hs ▸ hP)).1 c r h
  · rcases mem_execBrowse_outs hm with h | ⟨_, s', hs, h⟩
    · cases h
    · exact (outsOk_queryCacheForService P s' now ty ch (hs ▸ hP)).2 c ty' inst h

theorem noRes_execResolveHost (s : State) (now : Nat) (rep : Bool) (host : BList) (d ch : Nat) (t : Option Nat) :
    NoRes (execResolveHost s now rep host d ch t).2 := by
  refine ⟨fun c r hm => ?_, fun c ty' inst hm => ?_⟩
  · rcases mem_execResolveHost_outs hm with h | ⟨_, p, _, h⟩
    · cases h
    · cases h
  · rcases mem_execResolveHost_outs hm with h | ⟨_, p, _, h⟩
    · cases h
    · cases h

theorem ok_execCommand (P : Cache → Prop) (hL : LowClosed P) (s : State) (now : Nat) (c : Command) (hP : P s.cache) :
    PhaseOk P now (execCommand s now c) := by
  refine ⟨closed_execCommand (hL.phases now) s c hP, ?_⟩
  cases c with
  | browse ty ch co => exact outsOk_execBrowse P s now false ty 1 co ch hP
  | stopBrowse ty => exact (plain_execStopBrowse s ty).ok
  | resolveHost h ch t => exact (noRes_execResolveHost s now false h 1 ch t).ok
  | stopResolve h => exact (plain_execStopResolve s h).ok
  | ipInterval ms => exact OutsOk.nil P now
  | verify inst t => exact (plain_execVerify s now false inst t).ok
  | metrics ch => exact (Plain.single (plain_event rfl)).ok
  | acceptUnsolicited on => exact OutsOk.nil P now

theorem ok_runCommands (P : Cache → Prop) (hL : LowClosed P) (now : Nat) : ∀ (cs : List Command) (s : State),
    P s.cache → PhaseOk P now (runCommands s now cs)
  | [], s, hP => ⟨hP, OutsOk.nil P now⟩
  | c :: cs, s, hP => by
    have h1 := ok_execCommand P hL s now c hP
    have h2 := ok_runCommands P hL now cs _ h1.1
    exact ⟨h2.1, h1.2.append h2.2⟩

theorem not_live_iff (now : Nat) (e : Entry) : live now e = false ↔ e.record.expires ≤ now := by
  rw [← Bool.not_eq_true, live_iff]
  omega

/-- all SRV entries of `a` have expired (and there is an SRV name for it) -/
def srvAllExpired (now : Nat) (srv : Table) (a : BList) : Bool :=
  match srv.get a with
  | some l => l.all fun x => !live now x
  | none => false

theorem reportSrv_cons_some (now : Nat) (srv : Table) (ty : BList) (e : Entry) (es : List Entry) (gone : List BList)
    (a : BList) (h : aliasOf e = some a) :
    reportSrv now srv ty (e :: es) gone =
      if (!gone.contains a && srvAllExpired now srv a) = true then
        ((ty, a) :: (reportSrv now srv ty es (a :: gone)).1, (reportSrv now srv ty es (a :: gone)).2)
      else reportSrv now srv ty es gone := by
  rw [reportSrv]
  simp only [h, srvAllExpired]
  rfl

theorem reportSrv_cons_none (now : Nat) (srv : Table) (ty : BList) (e : Entry) (es : List Entry) (gone : List BList)
    (h : aliasOf e = none) : reportSrv now srv ty (e :: es) gone = reportSrv now srv ty es gone := by
  rw [reportSrv]
  simp only [h]

theorem reportSrv_sound (now : Nat) (srv : Table) (ty : BList) : ∀ (es : List Entry) (gone : List BList) (ty' a : BList),
    (ty', a) ∈ (reportSrv now srv ty es gone).1 →
    ty' = ty ∧ ∃ e ∈ es, aliasOf e = some a ∧ ∃ l, srv.get a = some l ∧ ∀ x ∈ l, x.record.expires ≤ now
  | [], gone, ty', a, h => by simp [reportSrv] at h
  | e :: es, gone, ty', a, h => by
    have ih := fun g h' => reportSrv_sound now srv ty es g ty' a h'
    have lift : (ty' = ty ∧ ∃ e' ∈ es, aliasOf e' = some a ∧ ∃ l, srv.get a = some l ∧ ∀ x ∈ l, x.record.expires ≤ now) →
        ty' = ty ∧ ∃ e' ∈ e :: es, aliasOf e' = some a ∧ ∃ l, srv.get a = some l ∧ ∀ x ∈ l, x.record.expires ≤ now := by
      rintro ⟨h1, e', he', h2⟩
      exact ⟨h1, e', List.mem_cons_of_mem _ he', h2⟩
    cases ha0 : aliasOf e with
    | none =>
      rw [reportSrv_cons_none now srv ty e es gone ha0] at h
      exact lift (ih _ h)
    | some a0 =>
      rw [reportSrv_cons_some now srv ty e es gone a0 ha0] at h
      by_cases hc : (!gone.contains a0 && srvAllExpired now srv a0) = true
      · rw [if_pos hc] at h
        simp only [List.mem_cons] at h
        rcases h with h | h
        · cases h
          simp only [Bool.and_eq_true] at hc
          refine ⟨rfl, e, List.mem_cons_self, ha0, ?_⟩
          have h2 := hc.2
          unfold srvAllExpired at h2
          cases hg : srv.get a with
          | none => simp [hg] at h2
          | some l =>
            refine ⟨l, rfl, ?_⟩
            intro x hx
            simp only [hg, List.all_eq_true] at h2
            exact (not_live_iff now x).mp (by simpa using h2 x hx)
        · exact lift (ih _ h)
      · rw [if_neg hc] at h
        exact lift (ih _ h)

theorem evictReport_sound (now : Nat) (srv : Table) : ∀ (ptr : Table) (gone : List BList) (ty a : BList),
    (ty, a) ∈ evictReport now srv ptr gone →
    ∃ es, (ty, es) ∈ ptr ∧ ∃ e ∈ es, aliasOf e = some a ∧
      (e.record.expires ≤ now ∨ ∃ l, srv.get a = some l ∧ ∀ x ∈ l, x.record.expires ≤ now)
  | [], gone, ty, a, h => by simp [evictReport] at h
  | p :: rest, gone, ty, a, h => by
    unfold evictReport at h
    simp only [List.mem_append] at h
    rcases h with (h | h) | h
    · obtain ⟨rfl, e, he, ha, hl⟩ := reportSrv_sound now srv p.1 p.2 gone ty a h
      exact ⟨p.2, List.mem_cons_self, e, he, ha, Or.inr hl⟩
    · simp only [List.mem_filterMap, List.mem_filter] at h
      obtain ⟨e, ⟨he, hlive⟩, hm⟩ := h
      cases ha : aliasOf e with
      | none => simp [ha] at hm
      | some a0 =>
        simp only [ha, Option.map_some, Option.some.injEq, Prod.mk.injEq] at hm
        obtain ⟨rfl, rfl⟩ := hm
        exact ⟨p.2, List.mem_cons_self, e, he, ha, Or.inl ((not_live_iff now e).mp (by simpa using hlive))⟩
    · obtain ⟨es, hes, hr⟩ := evictReport_sound now srv rest _ ty a h
      exact ⟨es, List.mem_cons_of_mem _ hes, hr⟩

theorem ok_evictServicesPhase (P : Cache → Prop) (hL : LowClosed P) (s : State) (now : Nat) (hP : P s.cache) :
    PhaseOk P now (evictServicesPhase s now) := by
  refine ⟨(hL.phases now).evictS _ hP, ?_, ?_⟩
  · exact fun ch r hm => absurd hm (noResolved_notifyRemoval _ _ ch r)
  · intro ch ty inst hm
    have hm' := (mem_notifyRemoval _ _ ch ty inst hm).1
    exact Or.inl ⟨s.cache, hP, evictReport_sound now s.cache.srv s.cache.ptr [] ty inst hm'⟩

theorem ok_evictAddrHosts (P : Cache → Prop) (now : Nat) (items : List (BList × BList × BList × Nat)) :
    ∀ (hosts : List BList) (s : State), P s.cache → PhaseOk P now (evictAddrHosts s now items hosts)
  | [], s, hP => ⟨hP, OutsOk.nil P now⟩
  | h :: rest, s, hP => by
    unfold evictAddrHosts
    simp only []
    have h1 : P (resolveUpdated s now (instancesOnHost s.cache h)).1.cache := by simpa using hP
    have h2 := ok_evictAddrHosts P now items rest _ h1
    refine ⟨h2.1, OutsOk.append (OutsOk.append ?_ (outsOk_resolveUpdated P s now _ hP)) h2.2⟩
    split
    · exact OutsOk.nil P now
    · exact ⟨fun _ _ hm => (nomatch List.mem_singleton.mp hm), fun _ _ _ hm => (nomatch List.mem_singleton.mp hm)⟩

theorem ok_evictAddrPhase (P : Cache → Prop) (hL : LowClosed P) (s : State) (now : Nat) (hP : P s.cache) :
    PhaseOk P now (evictAddrPhase s now) :=
  ok_evictAddrHosts P now _ _ _ ((hL.phases now).evictA _ hP)

/-- the records of a response as handed to `add_or_update` at `now` on `intf` -/
def recDeliveries (now : Nat) (intf : Intf) (m : Wire.Msg) : List Delivery :=
  (m.answers ++ m.authorities ++ m.additionals).map fun r => ⟨now, intf.name, intf.idx, r⟩

/-- what a datagram delivers: nothing if `handle_read` drops it (unknown interface, disabled
    family, not a response) -/
def pktDeliveries (s : State) (now : Nat) (p : Packet) : List Delivery :=
  match s.intfs.find? (·.idx == p.ifIdx) with
  | none => []
  | some intf =>
    if (p.v4 && !intf.v4) || (!p.v4 && !intf.v6) then []
    else if p.msg.flags / 32768 % 2 == 1 then recDeliveries now intf p.msg
    else []

/-- the deliveries of the datagrams of one iteration -/
def deliveries (s : State) (now : Nat) : List Packet → List Delivery
  | [] => []
  | p :: rest => pktDeliveries s now p ++ deliveries (handleRead s now p).1 now rest

theorem ingestOne_cache (q : List (BList × Nat)) (ifName : BList) (ifIdx now : Nat) (forUs : Bool) (acc : Ingest)
    (r : Wire.Rec) :
    (ingestOne q ifName ifIdx now forUs acc r).cache =
      (addOrUpdate acc.cache ifName ifIdx (ofWire ifName ifIdx now r) now forUs).cache := by
  unfold ingestOne
  simp only []
  repeat' split
  all_goals rfl

theorem plain_ingestOne (q : List (BList × Nat)) (ifName : BList) (ifIdx now : Nat) (forUs : Bool) (acc : Ingest)
    (r : Wire.Rec) (h : Plain acc.outs) : Plain (ingestOne q ifName ifIdx now forUs acc r).outs := by
  unfold ingestOne
  simp only []
  repeat' split
  all_goals first
    | exact h
    | exact h.append (.single (plain_event rfl))

theorem plain_ingestAll (q : List (BList × Nat)) (ifName : BList) (ifIdx now : Nat) (forUs : Bool) :
    ∀ (rs : List Wire.Rec) (acc : Ingest), Plain acc.outs → Plain (ingestAll q ifName ifIdx now forUs acc rs).outs
  | [], _, h => h
  | r :: rest, acc, h => by
    simp only [ingestAll]
    exact plain_ingestAll q ifName ifIdx now forUs rest _ (plain_ingestOne q ifName ifIdx now forUs acc r h)

theorem prov_ingestAll (hist : List Delivery) (q : List (BList × Nat)) (ifName : BList) (ifIdx now : Nat) (forUs : Bool) :
    ∀ (rs : List Wire.Rec) (acc : Ingest), (∀ r ∈ rs, (⟨now, ifName, ifIdx, r⟩ : Delivery) ∈ hist) →
      CacheProv hist acc.cache → CacheProv hist (ingestAll q ifName ifIdx now forUs acc rs).cache
  | [], _, _, h1 => h1
  | r :: rest, acc, hd, h1 => by
    simp only [ingestAll]
    apply prov_ingestAll hist q ifName ifIdx now forUs rest _ (fun r' hr' => hd r' (List.mem_cons_of_mem _ hr'))
    rw [ingestOne_cache]
    exact cacheProv_addOrUpdate hist acc.cache ⟨now, ifName, ifIdx, r⟩ (hd r List.mem_cons_self) forUs h1

theorem mem_hostFoundOuts {s : State} {c : Cache} {now : Nat} {changes : List (Nat × BList)} {o : Out}
    (h : o ∈ hostFoundOuts s c now changes) :
    ∃ name chan, resolverChan s name = some chan ∧ ∃ p ∈ addressesForHost c now name, o = .event chan (.hfound p.1 p.2) := by
  simp only [hostFoundOuts, List.mem_flatMap] at h
  obtain ⟨chg, _, hx⟩ := h
  split at hx
  · cases hx
  · rename_i chan hchan
    obtain ⟨p, hp, he⟩ := List.mem_map.mp hx
    exact ⟨chg.2, chan, hchan, p, hp, he.symm⟩

theorem noRes_hostFoundOuts (s : State) (c : Cache) (now : Nat) (changes : List (Nat × BList)) :
    NoRes (hostFoundOuts s c now changes) := by
  refine ⟨fun _ _ h => ?_, fun _ _ _ h => ?_⟩
  · obtain ⟨_, _, _, _, _, he⟩ := mem_hostFoundOuts h
    cases he
  · obtain ⟨_, _, _, _, _, he⟩ := mem_hostFoundOuts h
    cases he

theorem ok_handleResponse (hist : List Delivery) (s : State) (now : Nat) (intf : Intf) (m : Wire.Msg)
    (hd : ∀ d ∈ recDeliveries now intf m, d ∈ hist) (h : CacheProv hist s.cache) :
    PhaseOk (CacheProv hist) now (handleResponse s now intf m) := by
  have hing := prov_ingestAll hist s.queriers intf.name intf.idx now (isForUs s m.answers)
    (m.answers ++ m.authorities ++ m.additionals) { cache := s.cache, timers := [], changes := [], outs := [] }
    (fun r hr => hd _ (List.mem_map.mpr ⟨r, hr, rfl⟩)) h
  unfold handleResponse PhaseOk
  simp only [resolveUpdated_cache, addTimers_cache]
  refine ⟨hing, OutsOk.append (OutsOk.append (plain_ingestAll _ _ _ _ _ _ _ .nil).ok (noRes_hostFoundOuts _ _ _ _).ok) ?_⟩
  exact outsOk_resolveUpdated _ _ now _ (by simpa using hing)

theorem handleRead_deliveries (s : State) (now : Nat) (p : Packet) :
    (handleRead s now p = (s, []) ∧ pktDeliveries s now p = []) ∨
    ∃ intf, handleRead s now p = handleResponse s now intf p.msg ∧ pktDeliveries s now p = recDeliveries now intf p.msg := by
  unfold handleRead pktDeliveries
  cases s.intfs.find? (·.idx == p.ifIdx) with
  | none => exact Or.inl ⟨rfl, rfl⟩
  | some intf =>
    simp only []
    by_cases h1 : ((p.v4 && !intf.v4) || (!p.v4 && !intf.v6)) = true
    · rw [if_pos h1, if_pos h1]
      exact Or.inl ⟨rfl, rfl⟩
    · rw [if_neg h1, if_neg h1]
      by_cases h2 : (p.msg.flags / 32768 % 2 == 1) = true
      · rw [if_pos h2, if_pos h2]
        exact Or.inr ⟨intf, rfl, rfl⟩
      · rw [if_neg h2, if_neg h2]
        exact Or.inl ⟨rfl, rfl⟩

theorem ok_handleRead (hist : List Delivery) (s : State) (now : Nat) (p : Packet)
    (hd : ∀ d ∈ pktDeliveries s now p, d ∈ hist) (h : CacheProv hist s.cache) :
    PhaseOk (CacheProv hist) now (handleRead s now p) := by
  rcases handleRead_deliveries s now p with ⟨h1, _⟩ | ⟨intf, h1, h2⟩ <;> rw [h1]
  · exact ⟨h, OutsOk.nil _ now⟩
  · exact ok_handleResponse hist s now intf p.msg (h2 ▸ hd) h

/-- ingress: provenance extends by exactly the deliveries of the iteration -/
theorem ok_ingress (now : Nat) : ∀ (pkts : List Packet) (hist : List Delivery) (s : State), CacheProv hist s.cache →
    PhaseOk (CacheProv (hist ++ deliveries s now pkts)) now (ingress s now pkts)
  | [], hist, s, h => by
    simp only [deliveries, List.append_nil]
    exact ⟨h, OutsOk.nil _ now⟩
  | p :: rest, hist, s, h => by
    have h1 := ok_handleRead (hist ++ pktDeliveries s now p) s now p (fun d hd => List.mem_append_right _ hd)
      (h.mono fun d hd => List.mem_append_left _ hd)
    have h2 := ok_ingress now rest (hist ++ pktDeliveries s now p) (handleRead s now p).1 h1.1
    simp only [deliveries, ingress]
    rw [← List.append_assoc]
    refine ⟨h2.1, OutsOk.append (h1.2.mono fun c hc => hc.mono fun d hd => List.mem_append_left _ hd) h2.2⟩

/-- **One iteration**: the cache afterwards is justified by the history extended with this
    iteration's deliveries, every `ServiceResolved` it emits is a valid result of
    `resolve_service_from_cache` on a cache that is, and every `ServiceRemoved` has its reason
    (`RemovedWhy`) on such a cache. -/
theorem ok_iter (hist : List Delivery) (s : State) (now : Nat) (pkts : List Packet) (cmds : List Command)
    (h : CacheProv hist s.cache) :
    PhaseOk (CacheProv (hist ++ deliveries s now pkts)) now (iter s now pkts cmds) := by
  have hL := lowClosed_cacheProv (hist ++ deliveries s now pkts)
  have h1 := ok_ingress now pkts hist s h
  have h2 : CacheProv (hist ++ deliveries s now pkts) (preCommands s now pkts).cache := by
    rw [preCommands_eq, runTimeouts_cache, afterPop, popTimers_cache]
    exact h1.1
  have h4 := ok_runCommands _ hL now cmds _ h2
  have h8 := ok_evictServicesPhase _ hL _ now (closed_preEvict (hL.phases now) s pkts cmds h2)
  have h9 := ok_evictAddrPhase _ hL _ now h8.1
  rw [iter_eq]
  refine ⟨?_, (((h1.2.append (plain_runTimeouts _ now).ok).append h4.2).append (plain_refreshPhases _ now).ok).append ?_⟩
  · rw [runIpCheck_cache, preIp]
    exact h9.1
  · simp only [evictPhases]
    exact h8.2.append h9.2

end Mdns.Client
