import Mdns.Lemmas.ClientSchedule
/-
  C19 on the client model, hostname searches: the retransmission schedule of ONE
  `resolve_hostname` search (`HostSched`, `HostEnded`).
-/
namespace Mdns.Client
open Mdns Mdns.Rec Mdns.Cache

theorem any_eq_filter_ne_nil {α} (p : α → Bool) : ∀ (l : List α), l.any p = !(l.filter p).isEmpty
  | [] => rfl
  | a :: l => by
    have ih := any_eq_filter_ne_nil p l
    cases h : p a <;> simp [h, ih]

/-- The retransmission schedule of the search for `host` (filed under `lower host`) on `ch` with
    deadline `dl`: the query number `k` (the one of the call is number 0) went out at `t`; the
    next one is queued for `t + delay k` seconds - an instant before the deadline - and carries
    the delay `delay (k + 1)`; the search is open, with exactly one entry for the name. -/
structure HostSched (host : BList) (ch : Nat) (dl : Option Nat) (t k : Nat) (s : State) : Prop where
  queue : s.reruns.filter (fun r : Rerun => skey r.cmd == some (true, lower host)) =
    [⟨t + Delay.delay k * 1000, .resolveHost host (Delay.delay (k + 1)) ch⟩]
  search : s.resolvers.filter (fun q => q.1 == lower host) = [(lower host, ch, dl)]
  before : ∀ d, dl = some d → t + Delay.delay k * 1000 < d

/-- the schedule of the search for `host` is over: no retransmission of it is queued -/
def HostEnded (host : BList) (s : State) : Prop :=
  s.reruns.filter (fun r : Rerun => skey r.cmd == some (true, lower host)) = []

theorem withinDeadline_of_filter {s : State} {key : BList} {ch : Nat} {dl : Option Nat}
    (h : s.resolvers.filter (fun q => q.1 == key) = [(key, ch, dl)]) (next : Nat) :
    s.resolvers.any (·.1 == key) = true ∧
    withinDeadline s key next = (dl.map fun t => decide (next < t)).getD true := by
  constructor
  · rw [any_eq_filter_ne_nil, h]; rfl
  · unfold withinDeadline
    rw [← List.head?_filter, h]
    cases dl <;> rfl

theorem search_closed {s : State} {key : BList} (h : s.resolvers.filter (fun q => q.1 == key) = []) :
    s.resolvers.any (·.1 == key) = false := by
  rw [any_eq_filter_ne_nil, h]
  rfl

/-- the resolver entries of `key` before the commands of an iteration: the time-out phase removes
    an entry whose deadline has been reached -/
theorem preCommands_search {s : State} {key : BList} {ch : Nat} {dl : Option Nat} (now : Nat) (pkts : List Packet)
    (h : s.resolvers.filter (fun q => q.1 == key) = [(key, ch, dl)]) :
    ((∀ t, dl = some t → now < t) → (preCommands s now pkts).resolvers.filter (fun q => q.1 == key) = [(key, ch, dl)]) ∧
    ((∃ t, dl = some t ∧ t ≤ now) → (preCommands s now pkts).resolvers.filter (fun q => q.1 == key) = []) := by
  rw [preCommands_resolvers, Sched.filter_filter_comm, h]
  constructor
  · intro hlt
    cases dl with
    | none => rfl
    | some t =>
      have := hlt t rfl
      simp only [List.filter_cons, List.filter_nil]
      have : (!decide (now ≥ t)) = true := by simp; omega
      simp [this]
  · intro ⟨t, hdl, hle⟩
    subst hdl
    simp only [List.filter_cons, List.filter_nil]
    have : (!decide (now ≥ t)) = false := by simp; omega
    simp [this]

end Mdns.Client
