import Mdns.Lemmas.ClientStop
/-
  Shared by the property files about the client model: provenance of a cached entry, induction
  over histories of iterations, the events on a channel around one command of an iteration.
-/
theorem List.min?_le_of_mem {l : List Nat} {t : Nat} (h : t ∈ l) : ∃ w, l.min? = some w ∧ w ≤ t := by
  cases hm : l.min? with
  | none => exact absurd (List.min?_eq_none_iff.mp hm ▸ h) List.not_mem_nil
  | some w => exact ⟨w, rfl, (List.min?_eq_some_iff.mp hm).2 t h⟩

namespace Mdns.Cache

theorem slotOf_eq_some {ty : Nat} {sl : Slot} : slotOf ty = some sl →
    match sl with
    | .ptr => ty = 12 | .srv => ty = 33 | .txt => ty = 16 | .addr => ty = 1 ∨ ty = 28 | .nsec => ty = 47 := by
  have step : ∀ {c : Prop} [Decidable c] {a : Slot} {b : Option Slot},
      (if c then some a else b) = some sl → (c ∧ a = sl) ∨ b = some sl := by
    intro c _ a b h
    by_cases hc : c
    · exact Or.inl ⟨hc, Option.some.inj (by rwa [if_pos hc] at h)⟩
    · exact Or.inr (by rwa [if_neg hc] at h)
  intro h
  rcases step h with ⟨hc, rfl⟩ | h
  · exact hc
  rcases step h with ⟨hc, rfl⟩ | h
  · exact hc
  rcases step h with ⟨hc, rfl⟩ | h
  · exact hc
  rcases step h with ⟨hc, rfl⟩ | h
  · exact hc
  rcases step h with ⟨hc, rfl⟩ | h
  · exact hc
  cases h

end Mdns.Cache

namespace Mdns.Client
open Mdns Mdns.Rec Mdns.Cache

theorem CacheProv.of_get {hist : List Delivery} {c : Cache} (hc : CacheProv hist c) (sl : Slot) {k : BList} {e : Entry}
    (he : e ∈ ((c.table sl).get k).getD []) :
    ∃ d ∈ hist, Justifies d e ∧ slotOf d.wire.ty = some sl ∧ keyOf sl d.wire.name = k := by
  obtain ⟨q, hq, rfl, hqe⟩ := mem_getD _ _ e he
  obtain ⟨⟨d, hd, j⟩, hf⟩ := hc sl q hq e hqe
  exact ⟨d, hd, j, j.2.1 ▸ hf.1, j.1 ▸ hf.2⟩

theorem ofWire_rdata_addr {ifName : BList} {ifIdx now : Nat} {w : Wire.Rec} {ip n : BList} {i : Nat}
    (h : RData.addr ip n i = (ofWire ifName ifIdx now w).rdata) :
    (w.rdata = .a ip ∨ w.rdata = .aaaa ip) ∧ ifName = n ∧ ifIdx = i := by
  cases hw : w.rdata <;> simp only [ofWire, Record.new, hw, RData.addr.injEq, reduceCtorEq] at h
  · exact ⟨Or.inl (h.1 ▸ rfl), h.2.1.symm, h.2.2.symm⟩
  · exact ⟨Or.inr (h.1 ▸ rfl), h.2.1.symm, h.2.2.symm⟩

theorem ofWire_rdata_srv {ifName : BList} {ifIdx now : Nat} {w : Wire.Rec} {p wt port : Nat} {host : BList}
    (h : RData.srv p wt port host = (ofWire ifName ifIdx now w).rdata) : w.rdata = .srv p wt port host := by
  cases hw : w.rdata <;> simp only [ofWire, Record.new, hw, RData.srv.injEq, reduceCtorEq] at h
  obtain ⟨rfl, rfl, rfl, rfl⟩ := h
  rfl

theorem ofWire_rdata_txt {ifName : BList} {ifIdx now : Nat} {w : Wire.Rec} {b : BList}
    (h : RData.txt b = (ofWire ifName ifIdx now w).rdata) : w.rdata = .txt b := by
  cases hw : w.rdata <;> simp only [ofWire, Record.new, hw, RData.txt.injEq, reduceCtorEq] at h
  rw [h]

theorem run_induction {Inv : State → Prop} {P : Out → Prop} {Ok : Nat × List Packet × List Command → Prop} :
    ∀ (h : List (Nat × List Packet × List Command)) (s : State), Inv s → (∀ it ∈ h, Ok it) →
      (∀ s now pkts cmds, Inv s → Ok (now, pkts, cmds) →
        (∀ o ∈ (iter s now pkts cmds).2, P o) ∧ Inv (iter s now pkts cmds).1) →
      (∀ to ∈ (run s h).2, P to.2) ∧ Inv (run s h).1
  | [], _, hs, _, _ => ⟨fun _ hm => (nomatch hm), hs⟩
  | (now, pkts, cmds) :: rest, s, hs, hok, step => by
    obtain ⟨h1, h2⟩ := step s now pkts cmds hs (hok _ List.mem_cons_self)
    obtain ⟨h3, h4⟩ := run_induction rest _ h2 (fun it hit => hok it (List.mem_cons_of_mem _ hit)) step
    simp only [run]
    refine ⟨fun to hm => ?_, h4⟩
    rcases List.mem_append.mp hm with hm | hm
    · obtain ⟨o, ho, rfl⟩ := List.mem_map.mp hm
      exact h1 o ho
    · exact h3 to hm

theorem run_invariant {Inv : State → Prop} {Ok : Nat × List Packet × List Command → Prop}
    (h : List (Nat × List Packet × List Command)) (s : State) (hs : Inv s) (hok : ∀ it ∈ h, Ok it)
    (step : ∀ s now pkts cmds, Inv s → Ok (now, pkts, cmds) → Inv (iter s now pkts cmds).1) : Inv (run s h).1 :=
  (run_induction (P := fun _ => True) h s hs hok fun s now pkts cmds hi ho =>
    ⟨fun _ _ => trivial, step s now pkts cmds hi ho⟩).2

theorem run_not_mem {ι : Type} {Inv : State → Prop} {Ok : Nat × List Packet × List Command → Prop} (f : ι → Out)
    (h : List (Nat × List Packet × List Command)) (s : State) (hs : Inv s) (hok : ∀ it ∈ h, Ok it)
    (step : ∀ s now pkts cmds, Inv s → Ok (now, pkts, cmds) →
      (∀ i, f i ∉ (iter s now pkts cmds).2) ∧ Inv (iter s now pkts cmds).1) :
    (∀ t i, (t, f i) ∉ (run s h).2) ∧ Inv (run s h).1 :=
  have ⟨h1, h2⟩ := run_induction (P := fun o => ∀ i, o ≠ f i) h s hs hok fun s now pkts cmds hi ho =>
    have ⟨q, hi'⟩ := step s now pkts cmds hi ho
    ⟨fun _ hm i he => q i (he ▸ hm), hi'⟩
  ⟨fun _ i hm => h1 _ hm i rfl, h2⟩

theorem chanFree_before_command (ch : Nat) (s : State) (now : Nat) (pkts : List Packet) (pre : List Command)
    (hf : ChanFree ch s) (hD : ∀ r ∈ s.reruns, DelayOk r) (hpre : ∀ c ∈ pre, cchan c ≠ some ch) :
    (∀ e, Out.event ch e ∉ (ingress s now pkts).2 ++ (runTimeouts (popTimers (ingress s now pkts).1 now) now).2 ++
      (runCommands (preCommands s now pkts) now pre).2) ∧
    ChanFree ch (runCommands (preCommands s now pkts) now pre).1 ∧
    ∀ r ∈ (runCommands (preCommands s now pkts) now pre).1.reruns, DelayOk r := by
  have h1 := SInv.preCommands hf now pkts (chanGuard_free ch).none
  have hD1 := delayOk_preCommands s now pkts hD
  refine ⟨fun e he => ?_, (SInv.tail_of_chan (chanGuard_free ch) h1 now pre hD1 hpre).1, delayOk_runCommands _ now pre hD1⟩
  apply (chanFree_iter ch s now pkts pre hf hD hpre).1 e
  rw [(iter_tail s now pkts pre).2]
  rcases List.mem_append.mp he with he | he
  · exact List.mem_append_left _ he
  · refine List.mem_append_right _ ?_
    simp only [tailOuts, List.append_assoc]
    exact List.mem_append_left _ he

/-- a command that starts its output with an event on a free channel emits the first event on it -/
theorem first_event_of_command (ch : Nat) (s : State) (now : Nat) (pkts : List Packet) (pre : List Command) (c : Command)
    (post : List Command) (hf : ChanFree ch s) (hD : ∀ r ∈ s.reruns, DelayOk r) (hpre : ∀ c ∈ pre, cchan c ≠ some ch)
    {e0 : Ev} {b0 : List Out}
    (hhead : (execCommand (runCommands (preCommands s now pkts) now pre).1 now c).2 = Out.event ch e0 :: b0) :
    ∃ a b, (iter s now pkts (pre ++ c :: post)).2 = a ++ Out.event ch e0 :: b ∧ ∀ e, Out.event ch e ∉ a := by
  refine ⟨_, b0 ++ tailOuts (execCommand (runCommands (preCommands s now pkts) now pre).1 now c).1 now post, ?_,
    (chanFree_before_command ch s now pkts pre hf hD hpre).1⟩
  rw [(iter_split s now pkts pre c post).2, hhead]
  simp only [List.append_assoc, List.cons_append]

/-- a command on a free channel establishes every invariant about the channel that it respects itself -/
theorem inv_of_command_on_free {ch : Nat} {A : BList × Nat → Prop} {B : BList × Nat × Option Nat → Prop}
    {C : Option (Nat × BList × Nat) → Prop} (g : ChanGuard ch A B C) (s : State) (now : Nat) (pkts : List Packet)
    (pre : List Command) (c : Command) (post : List Command) (hf : ChanFree ch s) (hD : ∀ r ∈ s.reruns, DelayOk r)
    (hpre : ∀ c ∈ pre, cchan c ≠ some ch) (hpost : ∀ c ∈ post, cchan c ≠ some ch)
    (hA : ∀ ty ch' co, c = .browse ty ch' co → A (ty, ch'))
    (hB : ∀ h ch' t dl, c = .resolveHost h ch' t → B (lower h, ch', dl)) (hC : C (ckey c)) :
    SInv A B C (iter s now pkts (pre ++ c :: post)).1 ∧ ∀ r ∈ (iter s now pkts (pre ++ c :: post)).1.reruns, DelayOk r := by
  obtain ⟨_, hf0, hD0⟩ := chanFree_before_command ch s now pkts pre hf hD hpre
  have hst := step_execCommand (now := now) (cmds := [c]) (KeyOK := fun k => k = none ∨ k = ckey c) (OK := fun _ => True)
    (runCommands (preCommands s now pkts) now pre).1 c List.mem_cons_self (fun _ _ => trivial) (Or.inl rfl) (Or.inr rfl)
  have h1 := SInv.step hst (g.of_free hf0) (fun ty ch' co h => hA ty ch' co (List.mem_singleton.mp h).symm)
    (fun h ch' t dl hm => hB h ch' t dl (List.mem_singleton.mp hm).symm)
    (fun k hk => hk.elim (fun h => h ▸ g.none) fun h => h ▸ hC)
  have ht := SInv.tail_of_chan g h1 now post (delayOk_of_step hst hD0) hpost
  rw [(iter_split s now pkts pre c post).1]
  exact ⟨ht.2, delayOk_tail _ now post (delayOk_of_step hst hD0)⟩

/-- a command that emits one event on `ch` and leaves `ch` free emits the last event on it -/
theorem last_event_of_command {ch : Nat} {A : BList × Nat → Prop} {B : BList × Nat × Option Nat → Prop}
    {C : Option (Nat × BList × Nat) → Prop} (g : ChanGuard ch A B C) (s : State) (now : Nat) (pkts : List Packet)
    (pre : List Command) (c : Command) (post : List Command) (hi : SInv A B C s) (hD : ∀ r ∈ s.reruns, DelayOk r)
    (hpre : ∀ c ∈ pre, cchan c ≠ some ch) (hpost : ∀ c ∈ post, cchan c ≠ some ch) {e0 : Ev}
    (hout : (execCommand (runCommands (preCommands s now pkts) now pre).1 now c).2 = [Out.event ch e0])
    (hfree : SInv A B C (runCommands (preCommands s now pkts) now pre).1 →
      ChanFree ch (execCommand (runCommands (preCommands s now pkts) now pre).1 now c).1) :
    ∃ a b, (iter s now pkts (pre ++ c :: post)).2 = a ++ Out.event ch e0 :: b ∧ (∀ e, Out.event ch e ∉ b) ∧
      ChanFree ch (iter s now pkts (pre ++ c :: post)).1 ∧ ∀ r ∈ (iter s now pkts (pre ++ c :: post)).1.reruns, DelayOk r := by
  have h1 := SInv.preCommands hi now pkts g.none
  have hD1 := delayOk_preCommands s now pkts hD
  have ht := SInv.tail_of_chan g h1 now pre hD1 hpre
  have hD2 := delayOk_execCommand _ now c (delayOk_runCommands _ now pre hD1)
  obtain ⟨t1, t2⟩ := chanFree_tail ch _ now post (hfree ht.1) hD2 hpost
  have t3 := delayOk_tail _ now post hD2
  obtain ⟨e1, e2⟩ := iter_split s now pkts pre c post
  refine ⟨(ingress s now pkts).2 ++ (runTimeouts (popTimers (ingress s now pkts).1 now) now).2 ++
    (runCommands (preCommands s now pkts) now pre).2,
    tailOuts (execCommand (runCommands (preCommands s now pkts) now pre).1 now c).1 now post, ?_, t1, e1 ▸ t2, e1 ▸ t3⟩
  rw [e2, hout]
  simp only [List.append_assoc, List.cons_append, List.nil_append]

end Mdns.Client

/- Two notions of `Props/C20.lean` stand here, under its namespace: `bounded_init`, which two proofs there use, needs them,
   and the property files hold only the theorems that the checks audit. -/
namespace Mdns.Props.C20
open Mdns Mdns.Client

/-- the end of the lifetime of a delivered record -/
def lifeEnd (d : Delivery) : Nat := d.time + 1000 * d.wire.ttl

/-- every timer is the interface check or lies within the horizon `H`; every delivered record's
    lifetime ends within `H` -/
def Bounded (H : Nat) (hist : List Delivery) (s : State) : Prop :=
  (∀ t ∈ s.timers, t = s.nextIpCheck ∨ t ≤ H) ∧ ∀ d ∈ hist, lifeEnd d ≤ H

theorem bounded_init (t0 : Nat) (intfs : List Intf) : Bounded 0 [] (init t0 intfs) :=
  ⟨fun _ ht => Or.inl (List.mem_singleton.mp ht), fun _ hd => nomatch hd⟩

end Mdns.Props.C20
