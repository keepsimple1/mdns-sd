import Mdns.Lemmas.ResponderSched
/-
  C12 on the responder model, registry part: every operation on a `DnsRegistry` keeps every
  probe's `next_send` covered - by a timer of the daemon, by an entry of the registry's own
  `new_timers` (armed by `probing_handler` before the iteration ends), or (between
  `pop_timers_till` and `probing_handler`) by being due already.
-/
namespace Mdns.Responder
open Mdns

/-- The timers `ts` cover the probes of registry `r`, except those due before `b`: the
    `next_send` of every probe is a timer, or waits in the registry's `new_timers`, or lies
    before `b` (`b = 0` before `pop_timers_till`; `b = now + 1` between `pop_timers_till` and
    `probing_handler`, which looks at every probe that is due). -/
def RCov (ts : List Nat) (b : Nat) (r : Registry) : Prop :=
  ∀ e ∈ r.probing, e.2.next ∈ ts ∨ e.2.next ∈ r.newTimers ∨ e.2.next < b

theorem RCov.empty (ts : List Nat) (b : Nat) : RCov ts b {} := fun _ h => by cases h

/-- What every operation on a registry does to its probes: a probe of `r'` has the `next_send` of
    a probe of `r`, or it comes with its timer - among `ts'` or in the `new_timers` of `r'`.  Timers
    stay; `new_timers` stay or are armed. -/
theorem RCov.step {ts ts' : List Nat} {b : Nat} {r r' : Registry} (h : RCov ts b r) (ht : ∀ t ∈ ts, t ∈ ts')
    (hn : ∀ t ∈ r.newTimers, t ∈ ts' ∨ t ∈ r'.newTimers)
    (hp : ∀ e ∈ r'.probing, (∃ e0 ∈ r.probing, e0.2.next = e.2.next) ∨ e.2.next ∈ ts' ∨ e.2.next ∈ r'.newTimers) :
    RCov ts' b r' := by
  intro e he
  rcases hp e he with ⟨e0, he0, heq⟩ | h1 | h1
  · rw [← heq]
    rcases h e0 he0 with h2 | h2 | h2
    · exact Or.inl (ht _ h2)
    · exact (hn _ h2).elim Or.inl (fun h3 => Or.inr (Or.inl h3))
    · exact Or.inr (Or.inr h2)
  · exact Or.inl h1
  · exact Or.inr (Or.inl h1)

theorem RCov.sup {ts ts' : List Nat} {b : Nat} {r : Registry} (h : RCov ts b r) (hs : ∀ t ∈ ts, t ∈ ts') :
    RCov ts' b r := h.step hs (fun _ h => Or.inr h) (fun e he => Or.inl ⟨e, he, rfl⟩)

theorem RCov.aset {ts ts' : List Nat} {b : Nat} {r r' : Registry} {k : BList} {p : Probe} (h : RCov ts b r)
    (hr : r'.probing = aset k p r.probing) (ht : ∀ t ∈ ts, t ∈ ts') (hn : ∀ t ∈ r.newTimers, t ∈ r'.newTimers)
    (hp : (∃ e0 ∈ r.probing, e0.2.next = p.next) ∨ p.next ∈ ts' ∨ p.next ∈ r'.newTimers) : RCov ts' b r' := by
  refine h.step ht (fun _ h => Or.inr (hn _ h)) (fun e he => ?_)
  rw [hr] at he
  rcases mem_aset he with rfl | hold
  · exact hp
  · exact Or.inl ⟨e, hold, rfl⟩

theorem mem_append_left' {α} {a b : List α} : ∀ t ∈ a, t ∈ a ++ b := fun _ h => List.mem_append_left _ h

/-! ### `is_probing_done` / `prepare_announce`: the times go to `new_timers` -/

theorem probeInsert_cov {ts : List Nat} {b : Nat} {r : Registry} (h : RCov ts b r) (a : RR) (n : BList) (t : Nat) :
    RCov ts b (r.probeInsert a n t) := by
  refine h.aset rfl (fun _ h => h) mem_append_left' (Or.inr (Or.inr ?_))
  simp only [Registry.probeInsert, List.mem_append, List.mem_cons]
  rcases Probe.join_times ((alookup a.getName r.probing).getD (Probe.new t)) a n t with ⟨_, h2, _⟩ | ⟨_, h2, h3⟩
  · exact Or.inr (Or.inl h2)
  · right; right
    simp only [h3, if_true, List.mem_singleton]
    exact h2

theorem announce_pair_cov {ts : List Nat} {b : Nat} {r : Registry} (h : RCov ts b r) (s : Service) (i : MyIntf)
    (now j : Nat) : RCov ts b (announcePair s i r now j) :=
  announce_pair_ind s i now j h (fun _ a hx => probeInsert_cov hx a _ _)

theorem drain_cov {ts : List Nat} {b : Nat} {r : Registry} (h : RCov ts b r) :
    RCov (ts ++ r.newTimers) b { r with newTimers := [] } :=
  h.step mem_append_left' (fun _ h => Or.inl (List.mem_append_right _ h)) (fun e he => Or.inl ⟨e, he, rfl⟩)

/-! ### unregister -/

theorem removeWaiting_cov {ts : List Nat} {b : Nat} {r : Registry} (h : RCov ts b r) (n : BList) :
    RCov ts b (r.removeWaiting n) := by
  refine h.step (fun _ h => h) (fun _ h => Or.inr h) (fun e he => ?_)
  obtain ⟨q, hq, _, _, h3, _⟩ := removeWaiting_mem (k := e.1) (p := e.2) he
  exact Or.inl ⟨(e.1, q), hq, h3.symm⟩

/-! ### a lost tiebreak (repair of D34) -/

theorem postponedTo_of_unchanged (now : Nat) (auths : List Wire.Rec) (reg : Registry) (q : Wire.Question)
    (h : tiebreak now auths reg q = reg) : postponedTo now auths reg q = none := by
  unfold postponedTo
  rw [h]
  split
  · rfl
  · split
    · rename_i p p' h1 h2
      rw [h1] at h2
      cases h2
      simp
    · rfl

theorem tiebreak_cov {ts : List Nat} {b : Nat} {reg : Registry} (h : RCov ts b reg) (now : Nat) (auths : List Wire.Rec)
    (q : Wire.Question) :
    RCov (ts ++ (match postponedTo now auths reg q with | some t => [t] | none => [])) b (tiebreak now auths reg q) := by
  rcases tiebreak_cases now auths reg q with he | ⟨k, p, hk, hp, he⟩
  · rw [he]
    exact h.sup mem_append_left'
  · have hpost : postponedTo now auths reg q = if now + 1000 != p.next then some (now + 1000) else none := by
      unfold postponedTo
      rw [he]
      simp only [hk, hp, alookup_aset_self]
    rw [hpost, he]
    refine h.aset rfl mem_append_left' (fun _ h => h) ?_
    by_cases hn : now + 1000 = p.next
    · exact Or.inl ⟨(k, p), alookup_mem hp, hn.symm⟩
    · right; left
      simp [hn]

theorem tiebreakAll_cov (now : Nat) (auths : List Wire.Rec) (b : Nat) : ∀ (qs : List Wire.Question) (ts : List Nat) (reg : Registry),
    RCov ts b reg → RCov (ts ++ tiebreakTimers now auths reg qs) b (qs.foldl (tiebreak now auths) reg)
  | [], ts, reg, h => by simpa [tiebreakTimers] using h
  | q :: qs, ts, reg, h => by
    have h1 := tiebreak_cov h now auths q
    have h2 := tiebreakAll_cov now auths b qs _ _ h1
    simp only [List.foldl_cons, tiebreakTimers]
    rw [← List.append_assoc]
    exact h2

/-! ### conflicts (repair of D41: `update_hostname` arms a timer) -/

theorem updateHostname_cov {ts : List Nat} {b : Nat} {reg : Registry} (h : RCov ts b reg) (original newName : BList) (t : Nat) :
    RCov (ts ++ (if (updateHostname reg original newName t).2 then [t] else [])) b (updateHostname reg original newName t).1 := by
  unfold updateHostname
  simp only []
  refine foldl_inv (fun (acc : Registry × Bool) => RCov (ts ++ (if acc.2 then [t] else [])) b acc.1) _ _ _ ?_ ?_
  · -- the records are taken out of their probes: the times stay
    refine h.step mem_append_left' (fun _ h => Or.inr h) (fun e he => ?_)
    obtain ⟨e0, he0, rfl⟩ := List.mem_map.mp he
    exact Or.inl ⟨e0, he0, rfl⟩
  · intro acc rec _ hacc
    have ht : ∀ x ∈ ts ++ (if acc.2 then [t] else []), x ∈ ts ++ [t] := by
      intro x hx
      rcases List.mem_append.mp hx with hx | hx
      · exact List.mem_append_left _ hx
      · split at hx
        · exact List.mem_append_right _ hx
        · cases hx
    split
    · exact hacc.aset rfl ht (fun _ h => h) (Or.inr (Or.inl (by simp)))
    · exact hacc.aset rfl ht (fun _ h => h) (Or.inr (Or.inl (by simp [Probe.new])))

theorem conflictOnAnswer_cov {ts : List Nat} {b : Nat} (now jitter : Nat) (acc : Registry × List Nat) (ans : Wire.Rec)
    (h : RCov (ts ++ acc.2) b acc.1) :
    RCov (ts ++ (conflictOnAnswer now jitter acc ans).2) b (conflictOnAnswer now jitter acc ans).1 := by
  unfold conflictOnAnswer
  simp only []
  split
  · exact h
  · rename_i name hname
    split
    · exact h
    · rename_i probe hprobe
      split
      · exact h
      · refine foldl_inv (fun (x : Registry × List Nat) => RCov (ts ++ x.2) b x.1) _ _ _ ?_ ?_
        · -- the probe without the conflicting records keeps its time
          exact h.aset rfl (fun _ h => h) (fun _ h => h) (Or.inl ⟨(name, probe), alookup_mem hprobe, rfl⟩)
        · intro x rec _ hx
          rcases hu : updateHostname x.1 name rec.getName (now + jitter) with ⟨regA, created⟩
          have hA := updateHostname_cov hx name rec.getName (now + jitter)
          rw [hu] at hA
          have hA' : RCov (ts ++ (if created then x.2 ++ [now + jitter] else x.2)) b regA := by
            cases created
            · simpa using hA
            · simpa [List.append_assoc] using hA
          simp only []
          split
          · rename_i p hp
            exact hA'.aset rfl (fun _ h => h) (fun _ h => h) (Or.inl ⟨(rec.getName, p), alookup_mem hp, rfl⟩)
          · refine hA'.aset rfl (fun t ht => ?_) (fun _ h => h) (Or.inr (Or.inl (by simp [Probe.new])))
            rw [← List.append_assoc]
            exact List.mem_append_left _ ht

/-! ### `check_probing` and `handle_expired_probes` -/

theorem expireProbe_left (intfName : BList) (acc : Registry × List Event × List BList) (name : BList) :
    (expireProbe intfName acc name).1.newTimers = acc.1.newTimers ∧
    ∀ e ∈ (expireProbe intfName acc name).1.probing, e ∈ acc.1.probing ∧ e.1 ≠ name := by
  unfold expireProbe
  split
  · rename_i hnone
    exact ⟨rfl, fun e he => ⟨he, alookup_none_not_mem hnone e he⟩⟩
  · have hmem : ∀ e ∈ aerase name acc.1.probing, e ∈ acc.1.probing ∧ e.1 ≠ name := fun e he =>
      ⟨mem_aerase he, by simpa [aerase] using (List.mem_filter.mp he).2⟩
    simp only []
    split <;> exact ⟨rfl, hmem⟩

theorem handleExpiredProbes_left (expired : List BList) (intfName : BList) (r : Registry) :
    (handleExpiredProbes expired intfName r).1.newTimers = r.newTimers ∧
    ∀ e ∈ (handleExpiredProbes expired intfName r).1.probing, e ∈ r.probing ∧ e.1 ∉ expired := by
  suffices hs : ∀ (l : List BList) (acc : Registry × List Event × List BList),
      (l.foldl (expireProbe intfName) acc).1.newTimers = acc.1.newTimers ∧
      ∀ e ∈ (l.foldl (expireProbe intfName) acc).1.probing, e ∈ acc.1.probing ∧ e.1 ∉ l from hs expired (r, [], [])
  intro l
  induction l with
  | nil => exact fun acc => ⟨rfl, fun e he => ⟨he, List.not_mem_nil⟩⟩
  | cons name rest ih =>
    intro acc
    obtain ⟨h1, h2⟩ := ih (expireProbe intfName acc name)
    obtain ⟨s1, s2⟩ := expireProbe_left intfName acc name
    refine ⟨h1.trans s1, fun e he => ?_⟩
    obtain ⟨h3, h4⟩ := h2 e he
    exact ⟨(s2 e h3).1, by simp only [List.mem_cons, not_or]; exact ⟨(s2 e h3).2, h4⟩⟩

theorem Probe.step_cases (p : Probe) (now : Nat) (h : p.action now ≠ .expire) :
    (now < p.next ∧ p.step now = p) ∨
    (p.action now = .send ∧ p.step now = { p with start := p.start + (now - p.next), next := now + 250 }) := by
  cases hact : p.action now with
  | idle =>
    refine Or.inl ⟨Nat.lt_of_not_le fun hge => ?_, by simp [Probe.step, hact]⟩
    rw [Probe.action_eq, if_pos hge] at hact
    split at hact <;> cases hact
  | send => exact Or.inr ⟨rfl, by simp [Probe.step, hact]⟩
  | expire => exact absurd hact h

theorem checkProbing_left (r : Registry) (now : Nat) (intfName : BList) :
    (handleExpiredProbes (checkProbing r now).expired intfName (checkProbing r now).reg).1.newTimers = r.newTimers ∧
    ∀ e ∈ (handleExpiredProbes (checkProbing r now).expired intfName (checkProbing r now).reg).1.probing,
      ∃ p, (e.1, p) ∈ r.probing ∧ p.action now ≠ .expire ∧ e.2 = p.step now := by
  obtain ⟨hnt, hleft⟩ := handleExpiredProbes_left (checkProbing r now).expired intfName (checkProbing r now).reg
  refine ⟨hnt, fun e he => ?_⟩
  obtain ⟨hm, hne⟩ := hleft e he
  rw [checkProbing_probing] at hm
  obtain ⟨e0, he0, rfl⟩ := List.mem_map.mp hm
  refine ⟨e0.2, he0, fun hact => hne ?_, rfl⟩
  simp only [checkProbing, List.mem_map, List.mem_filter]
  exact ⟨e0, ⟨he0, by simp [hact]⟩, rfl⟩

/-- `check_probing` + `handle_expired_probes` at `now`: a probe that was due has sent its query
    (next send at `now + 250`, with a timer) or has ended; one that was not due stays as it was
    covered -/
theorem checkProbing_cov {ts : List Nat} {b : Nat} {r : Registry} (now : Nat) (intfName : BList) (h : RCov ts b r) :
    ∀ e ∈ (handleExpiredProbes (checkProbing r now).expired intfName (checkProbing r now).reg).1.probing,
      e.2.next ∈ ts ++ (checkProbing r now).timers ∨
      e.2.next ∈ (handleExpiredProbes (checkProbing r now).expired intfName (checkProbing r now).reg).1.newTimers ∨
      now < e.2.next ∧ e.2.next < b := by
  obtain ⟨hnt, hleft⟩ := checkProbing_left r now intfName
  intro e he
  obtain ⟨p, hp, hact, hstep⟩ := hleft e he
  rw [hnt, hstep]
  rcases p.step_cases now hact with ⟨hlt, e1⟩ | ⟨hsend, e1⟩ <;> rw [e1]
  · rcases h _ hp with h1 | h1 | h1
    · exact Or.inl (List.mem_append_left _ h1)
    · exact Or.inr (Or.inl h1)
    · exact Or.inr (Or.inr ⟨hlt, h1⟩)
  · exact Or.inl (List.mem_append_right _ (checkProbing_sends hp hsend).2.2.1)

end Mdns.Responder
