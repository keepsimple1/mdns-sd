import Mdns.Lemmas.ClientFrame
/-
  Lemmas for C17 (hostname resolution) on the client model: where `AddressesFound` /
  `AddressesRemoved` events come from, the expiry floor of cached entries during an
  iteration, the provenance of the resolver table.
-/
namespace Mdns.Client
open Mdns Mdns.Rec Mdns.Cache

/-- no `AddressesFound` and no `AddressesRemoved` among `outs` -/
def NoH (outs : List Out) : Prop :=
  (∀ ch h a, Out.event ch (.hfound h a) ∉ outs) ∧ (∀ ch h a, Out.event ch (.hremoved h a) ∉ outs)

theorem NoH.append {a b : List Out} (ha : NoH a) (hb : NoH b) : NoH (a ++ b) :=
  ⟨fun ch h x hm => (List.mem_append.mp hm).elim (ha.1 ch h x) (hb.1 ch h x),
   fun ch h x hm => (List.mem_append.mp hm).elim (ha.2 ch h x) (hb.2 ch h x)⟩

theorem Plain.noH {outs : List Out} (h : Plain outs) : NoH outs :=
  ⟨fun _ _ _ hm => Bool.noConfusion (show true = false from h _ hm),
   fun _ _ _ hm => Bool.noConfusion (show true = false from h _ hm)⟩

theorem noH_notifyRemoval (q : List (BList × Nat)) (e : List (BList × BList)) : NoH (notifyRemoval q e) := by
  refine ⟨fun _ _ _ h => ?_, fun _ _ _ h => ?_⟩
  · simp [notifyRemoval] at h
  · simp [notifyRemoval] at h

theorem noH_resolveUpdated (s : State) (now : Nat) (u : List BList) : NoH (resolveUpdated s now u).2 := by
  unfold resolveUpdated
  split
  · exact Plain.nil.noH
  · refine NoH.append ⟨fun _ _ _ h => ?_, fun _ _ _ h => ?_⟩ (noH_notifyRemoval _ _)
    · obtain ⟨_, _, he⟩ := List.mem_map.mp h
      cases he
    · obtain ⟨_, _, he⟩ := List.mem_map.mp h
      cases he

theorem noH_queryCacheForService (s : State) (now : Nat) (ty : BList) (ch : Nat) :
    NoH (queryCacheForService s now ty ch).2 := by
  -- an output is `found`, or `resolved` when the instance resolves
  have hout : ∀ o ∈ (queryCacheForService s now ty ch).2, (∃ i, o = .event ch (.found ty i)) ∨ ∃ r, o = .event ch (.resolved r) := by
    intro o h
    simp only [queryCacheForService, List.mem_flatMap, List.mem_append, List.mem_singleton] at h
    obtain ⟨i, _, h | h⟩ := h
    · exact Or.inl ⟨i, h⟩
    · split at h
      · exact Or.inr ⟨_, List.mem_singleton.mp h⟩
      · cases h
  refine ⟨fun _ _ _ h => ?_, fun _ _ _ h => ?_⟩
  · rcases hout _ h with ⟨_, e⟩ | ⟨_, e⟩
    · cases e
    · cases e
  · rcases hout _ h with ⟨_, e⟩ | ⟨_, e⟩
    · cases e
    · cases e

theorem noH_execBrowse (s : State) (now : Nat) (rep : Bool) (ty : BList) (d : Nat) (co : Bool) (ch : Nat) :
    NoH (execBrowse s now rep ty d co ch).2 := by
  refine ⟨fun c h a hm => ?_, fun c h a hm => ?_⟩
  · rcases mem_execBrowse_outs hm with hp | ⟨_, s', _, hq⟩
    · exact Bool.noConfusion (show true = false from hp)
    · exact (noH_queryCacheForService s' now ty ch).1 c h a hq
  · rcases mem_execBrowse_outs hm with hp | ⟨_, s', _, hq⟩
    · exact Bool.noConfusion (show true = false from hp)
    · exact (noH_queryCacheForService s' now ty ch).2 c h a hq

theorem noH_evictServicesPhase (s : State) (now : Nat) : NoH (evictServicesPhase s now).2 :=
  noH_notifyRemoval _ _

theorem resolverChan_congr {s s' : State} (h : s'.resolvers = s.resolvers) (host : BList) :
    resolverChan s' host = resolverChan s host := by
  simp [resolverChan, h]

/-- in `handle_response`: a group of `get_addresses_for_host` on the cache the datagram left,
    for a name whose resolver has this channel -/
theorem hfound_handleResponse (s : State) (now : Nat) (intf : Intf) (m : Wire.Msg) (ch : Nat) (host : BList)
    (addrs : List AddrItem) (h : Out.event ch (.hfound host addrs) ∈ (handleResponse s now intf m).2) :
    ∃ name, resolverChan s name = some ch ∧
      (host, addrs) ∈ addressesForHost (handleResponse s now intf m).1.cache now name := by
  rw [handleResponse_cache]
  unfold handleResponse at h
  simp only [List.mem_append] at h
  rcases h with (h | h) | h
  · exact absurd h ((plain_ingestAll _ _ _ _ _ _ _ .nil).noH.1 ch host addrs)
  · obtain ⟨name, chan, hchan, p, hp, he⟩ := mem_hostFoundOuts h
    cases he
    exact ⟨name, hchan, hp⟩
  · exact absurd h ((noH_resolveUpdated _ _ _).1 ch host addrs)

theorem hfound_handleRead (s : State) (now : Nat) (p : Packet) (ch : Nat) (host : BList)
    (addrs : List AddrItem) (h : Out.event ch (.hfound host addrs) ∈ (handleRead s now p).2) :
    ∃ name, resolverChan s name = some ch ∧ (host, addrs) ∈ addressesForHost (handleRead s now p).1.cache now name := by
  rcases handleRead_cases s now p with e | ⟨intf, e⟩ <;> rw [e] at h ⊢
  · cases h
  · exact hfound_handleResponse s now intf p.msg ch host addrs h

/-- **origin of `AddressesFound` in the ingress phase**: the datagrams `pre ++ [p]` have been
    read; the event is a group of `get_addresses_for_host(name)` on the cache they left, and
    `name` is being resolved on the event's channel -/
theorem hfound_ingress (s : State) (now : Nat) (pkts : List Packet) (ch : Nat) (host : BList) (addrs : List AddrItem)
    (h : Out.event ch (.hfound host addrs) ∈ (ingress s now pkts).2) :
    ∃ pre p post name, pkts = pre ++ p :: post ∧ resolverChan s name = some ch ∧
      (host, addrs) ∈ addressesForHost (ingress s now (pre ++ [p])).1.cache now name := by
  obtain ⟨pre, p, post, hp, ho⟩ := mem_ingress_outs now _ pkts s h
  obtain ⟨name, h1, h2⟩ := hfound_handleRead _ now p ch host addrs ho
  refine ⟨pre, p, post, name, hp, ?_, ?_⟩
  · rw [← h1]
    exact (resolverChan_congr (same_ingress now pre s).resolvers name).symm
  · rw [ingress_append]
    simpa [ingress] using h2

/-- in `exec_command_resolve_hostname` (first run): the groups of the cache replay -/
theorem hfound_execResolveHost (s : State) (now : Nat) (h0 : BList) (d ch0 : Nat) (t : Option Nat) (ch : Nat)
    (host : BList) (addrs : List AddrItem)
    (h : Out.event ch (.hfound host addrs) ∈ (execResolveHost s now false h0 d ch0 t).2) :
    ch = ch0 ∧ (host, addrs) ∈ addressesForHost s.cache now h0 := by
  rcases mem_execResolveHost_outs h with hp | ⟨_, p, hp, he⟩
  · exact Bool.noConfusion (show true = false from hp)
  · cases he
    exact ⟨rfl, hp⟩

theorem hfound_execCommand (s : State) (now : Nat) (c : Command) (ch : Nat) (host : BList) (addrs : List AddrItem)
    (h : Out.event ch (.hfound host addrs) ∈ (execCommand s now c).2) :
    ∃ h0 t, c = .resolveHost h0 ch t ∧ (host, addrs) ∈ addressesForHost s.cache now h0 := by
  cases c with
  | browse ty ch' co => exact absurd h ((noH_execBrowse s now false ty 1 co ch').1 ch host addrs)
  | stopBrowse ty => exact absurd h ((plain_execStopBrowse s ty).noH.1 ch host addrs)
  | resolveHost h0 ch0 t =>
    obtain ⟨rfl, h2⟩ := hfound_execResolveHost s now h0 1 ch0 t ch host addrs h
    exact ⟨h0, t, rfl, h2⟩
  | stopResolve h0 => exact absurd h ((plain_execStopResolve s h0).noH.1 ch host addrs)
  | ipInterval ms => simp [execCommand] at h
  | verify inst t => exact absurd h ((plain_execVerify s now false inst t).noH.1 ch host addrs)
  | metrics ch' => simp [execCommand] at h
  | acceptUnsolicited on => simp [execCommand] at h

/-- **origin of `AddressesFound` in the command phase**: the `resolve_hostname` command of that
    channel, replaying the cache the commands before it left -/
theorem hfound_runCommands (s : State) (now : Nat) (cmds : List Command) (ch : Nat) (host : BList)
    (addrs : List AddrItem) (h : Out.event ch (.hfound host addrs) ∈ (runCommands s now cmds).2) :
    ∃ pre h0 t post, cmds = pre ++ Command.resolveHost h0 ch t :: post ∧
      (host, addrs) ∈ addressesForHost (runCommands s now pre).1.cache now h0 := by
  obtain ⟨pre, c, post, hp, ho⟩ := mem_runCommands_outs now _ cmds s h
  obtain ⟨h0, t, rfl, h2⟩ := hfound_execCommand _ now c ch host addrs ho
  exact ⟨pre, h0, t, post, hp, h2⟩

theorem noHF_evictAddrHosts (now : Nat) (items : List (BList × BList × BList × Nat)) :
    ∀ (hosts : List BList) (s : State) (ch : Nat) (h : BList) (a : List AddrItem),
      Out.event ch (.hfound h a) ∉ (evictAddrHosts s now items hosts).2
  | [], _, _, _, _ => by simp [evictAddrHosts]
  | h0 :: rest, s, ch, h, a => by
    intro hm
    simp only [evictAddrHosts, List.mem_append] at hm
    rcases hm with (hm | hm) | hm
    · split at hm <;> simp at hm
    · exact (noH_resolveUpdated _ _ _).1 ch h a hm
    · exact noHF_evictAddrHosts now items rest _ ch h a hm

/-- **origin of `AddressesFound` in an iteration**: the ingress phase or a `resolve_hostname`
    command, nothing else -/
theorem hfound_iter (s : State) (now : Nat) (pkts : List Packet) (cmds : List Command) (ch : Nat) (host : BList)
    (addrs : List AddrItem) (h : Out.event ch (.hfound host addrs) ∈ (iter s now pkts cmds).2) :
    (∃ pre p post name, pkts = pre ++ p :: post ∧ resolverChan s name = some ch ∧
      (host, addrs) ∈ addressesForHost (ingress s now (pre ++ [p])).1.cache now name) ∨
    (∃ pre h0 t post, cmds = pre ++ Command.resolveHost h0 ch t :: post ∧
      (host, addrs) ∈ addressesForHost (runCommands (preCommands s now pkts) now pre).1.cache now h0) := by
  rw [iter_eq] at h
  simp only [evictPhases, List.mem_append] at h
  rcases h with (((h | h) | h) | h) | h | h
  · exact Or.inl (hfound_ingress s now pkts ch host addrs h)
  · exact absurd h ((plain_runTimeouts _ _).noH.1 ch host addrs)
  · exact Or.inr (hfound_runCommands _ now cmds ch host addrs h)
  · exact absurd h ((plain_refreshPhases _ now).noH.1 ch host addrs)
  · exact absurd h ((noH_evictServicesPhase _ _).1 ch host addrs)
  · exact absurd h (noHF_evictAddrHosts now _ _ _ ch host addrs)

theorem mem_addrItemOf {e : Entry} {a : AddrItem} (h : addrItemOf e = some a) : e.record.rdata = .addr a.1 a.2.1 a.2.2 := by
  unfold addrItemOf at h
  split at h
  · rename_i ip n i hr
    cases h
    exact hr
  · cases h

/-- a group `(name, addrs)` of `get_addresses_for_host(host)` at `now`: `name` is the owner name
    of an address entry cached under the lower-cased `host` that has not expired at `now`, and
    `addrs` are exactly the addresses (with interface) of the unexpired entries of that owner
    name -/
theorem mem_addressesForHost (c : Cache) (now : Nat) (host name : BList) (addrs : List AddrItem)
    (h : (name, addrs) ∈ addressesForHost c now host) :
    (∃ e ∈ (c.addr.get (lower host)).getD [], now < e.record.expires ∧ e.record.name = name ∧
      ∃ a, addrItemOf e = some a) ∧
    (∀ a, a ∈ addrs ↔ ∃ e ∈ (c.addr.get (lower host)).getD [], now < e.record.expires ∧ e.record.name = name ∧
      addrItemOf e = some a) := by
  simp only [addressesForHost, List.mem_map, List.mem_eraseDups, List.mem_filter, Record.isExpired,
    Bool.and_eq_true, Bool.not_eq_true', decide_eq_false_iff_not, Nat.not_le, Option.isSome_iff_exists] at h
  obtain ⟨n, ⟨e, ⟨he, hlive, hsome⟩, hn⟩, heq⟩ := h
  simp only [Prod.mk.injEq] at heq
  obtain ⟨rfl, rfl⟩ := heq
  refine ⟨⟨e, he, hlive, hn, hsome⟩, ?_⟩
  intro a
  simp only [List.mem_eraseDups, List.mem_filterMap, List.mem_filter, beq_iff_eq, Bool.and_eq_true,
    Bool.not_eq_true', decide_eq_false_iff_not, Nat.not_le, Option.isSome_iff_exists]
  constructor
  · rintro ⟨x, ⟨⟨hx, hxl, _⟩, hxn⟩, ha⟩
    exact ⟨x, hx, hxl, hxn, ha⟩
  · rintro ⟨x, hx, hxl, hxn, ha⟩
    exact ⟨x, ⟨⟨hx, hxl, ⟨a, ha⟩⟩, hxn⟩, ha⟩

/-- the entry had not expired at `T` (the previous iteration), or its expiry was set in the
    iteration at `now` to an instant that is not before `now` -/
def Floor (T now : Nat) (e : Entry) : Prop := T < e.record.expires ∨ now ≤ e.record.expires

theorem floor_flushOne (T now : Nat) (inc : Record) (e : Entry) (h : Floor T now e) : Floor T now (flushOne inc now e) := by
  unfold flushOne
  split
  · right
    simp [Record.setExpire]
  · exact h

theorem floor_sooner (T now t : Nat) (ht : now ≤ t) (e : Entry) (h : Floor T now e) : Floor T now (soonerEntry t e) := by
  unfold soonerEntry Record.setExpireSooner
  split
  · right
    simpa [Record.setExpire] using ht
  · exact h

theorem floor_refreshed (T now : Nat) (e : Entry) (h : Floor T now e) :
    Floor T now { e with record := e.record.refreshed now } := by
  unfold Record.refreshed
  split <;> exact h

theorem floor_preCommands (T now : Nat) (s : State) (pkts : List Packet) (h : CacheAll (Floor T now) s.cache) :
    CacheAll (Floor T now) (preCommands s now pkts).cache := by
  refine closed_ingress (fun c ifName ifIdx r forUs hc => ?_) pkts s h
  apply cacheAll_addOrUpdate hc
  · exact fun e he => floor_flushOne T now _ e he
  · intro e _ _
    right
    simp [Record.resetTtl, ofWire, Record.new, expTime]
  · right
    simp [ofWire, Record.new, expTime]

theorem floor_preEvict (T now : Nat) (s : State) (pkts : List Packet) (cmds : List Command)
    (h : CacheAll (Floor T now) s.cache) : CacheAll (Floor T now) (preEvict s now pkts cmds).cache :=
  closed_preEvict
    (cacheAll_phases now (floor_refreshed T now) (fun _ he => he) fun t e he => floor_sooner T now _ (by omega) e he)
    s pkts cmds (floor_preCommands T now s pkts h)

theorem prov_preCommands (hist : List Delivery) (s : State) (now : Nat) (pkts : List Packet)
    (h : CacheProv hist s.cache) : CacheProv (hist ++ deliveries s now pkts) (preCommands s now pkts).cache := by
  have h1 := ok_ingress now pkts hist s h
  simpa [preCommands, runTimeouts] using h1.1

theorem prov_preEvict (hist : List Delivery) (s : State) (now : Nat) (pkts : List Packet) (cmds : List Command)
    (h : CacheProv hist s.cache) : CacheProv (hist ++ deliveries s now pkts) (preEvict s now pkts cmds).cache :=
  closed_preEvict ((lowClosed_cacheProv _).phases now) s pkts cmds (prov_preCommands hist s now pkts h)

theorem deliveries_prefix_sub (s : State) (now : Nat) (pre : List Packet) (p : Packet) (post : List Packet) :
    ∀ d ∈ deliveries s now (pre ++ [p]), d ∈ deliveries s now (pre ++ p :: post) := by
  intro d hd
  have : pre ++ p :: post = (pre ++ [p]) ++ post := by simp
  rw [this, deliveries_append]
  exact List.mem_append_left _ hd

/-- every open hostname search was started by a `resolve_hostname` command of `cmds` with that
    channel, for a name that lower-cases to the key -/
def ResolversFrom (cmds : List Command) (rs : List (BList × Nat × Option Nat)) : Prop :=
  ∀ q ∈ rs, ∃ h t, Command.resolveHost h q.2.1 t ∈ cmds ∧ q.1 = lower h

theorem ResolversFrom.mono {a b : List Command} (hsub : ∀ c ∈ a, c ∈ b) {rs : List (BList × Nat × Option Nat)}
    (h : ResolversFrom a rs) : ResolversFrom b rs := by
  intro q hq
  obtain ⟨h0, t, hc, hk⟩ := h q hq
  exact ⟨h0, t, hsub _ hc, hk⟩

theorem ResolversFrom.filter {cmds : List Command} {rs : List (BList × Nat × Option Nat)} (h : ResolversFrom cmds rs)
    (p : BList × Nat × Option Nat → Bool) : ResolversFrom cmds (rs.filter p) :=
  fun q hq => h q (List.mem_filter.mp hq).1

theorem execBrowse_resolvers (s : State) (now : Nat) (rep : Bool) (ty : BList) (d : Nat) (co : Bool) (ch : Nat) :
    (execBrowse s now rep ty d co ch).1.resolvers = s.resolvers := by
  unfold execBrowse
  cases rep <;> simp only [Bool.false_eq_true, if_false, if_true] <;> split <;>
    simp only [addRerun, (same_queryCacheForService _ now ty ch).resolvers]

theorem execVerify_resolvers (s : State) (now : Nat) (rep : Bool) (inst : BList) (t : Nat) :
    (execVerify s now rep inst t).1.resolvers = s.resolvers := by
  unfold execVerify
  cases rep
  · simp only [Bool.false_eq_true, if_false]
    split <;> rfl
  · simp only [if_true]
    split <;> rfl

theorem execResolveHost_new_resolvers (s : State) (now : Nat) (host : BList) (d ch : Nat) (t : Option Nat) :
    (execResolveHost s now false host d ch t).1.resolvers =
      (lower host, ch, t.map (now + ·)) :: s.resolvers.filter (fun q => q.1 != lower host) := by
  rw [execResolveHost_new]
  simp only [apply_ite State.resolvers, addRerun, ite_self]

theorem resolversFrom_execCommand (all : List Command) (s : State) (now : Nat) (c : Command) (hc : c ∈ all)
    (h : ResolversFrom all s.resolvers) : ResolversFrom all (execCommand s now c).1.resolvers := by
  cases c with
  | browse ty ch co =>
    show ResolversFrom all (execBrowse s now false ty 1 co ch).1.resolvers
    rw [execBrowse_resolvers]
    exact h
  | stopBrowse ty =>
    simp only [execCommand, execStopBrowse]
    split <;> exact h
  | resolveHost h0 ch t =>
    show ResolversFrom all (execResolveHost s now false h0 1 ch t).1.resolvers
    rw [execResolveHost_new_resolvers]
    intro q hq
    rcases List.mem_cons.mp hq with rfl | hq
    · exact ⟨h0, t, hc, rfl⟩
    · exact h.filter _ q hq
  | stopResolve h0 =>
    simp only [execCommand, execStopResolve]
    split
    · exact h
    · exact h.filter _
  | ipInterval ms => exact h
  | verify inst t =>
    show ResolversFrom all (execVerify s now false inst t).1.resolvers
    rw [execVerify_resolvers]
    exact h
  | metrics ch => exact h
  | acceptUnsolicited on => exact h

theorem resolversFrom_runCommands (all : List Command) (now : Nat) (cmds : List Command) (s : State)
    (hc : ∀ c ∈ cmds, c ∈ all) (h : ResolversFrom all s.resolvers) :
    ResolversFrom all (runCommands s now cmds).1.resolvers :=
  runCommands_induct (P := fun s => ResolversFrom all s.resolvers) (ok := (· ∈ all)) now
    (fun s c => resolversFrom_execCommand all s now c) cmds s hc h

theorem preCommands_resolvers_sub (s : State) (now : Nat) (pkts : List Packet) :
    ∀ q ∈ (preCommands s now pkts).resolvers, q ∈ s.resolvers := by
  intro q hq
  rw [preCommands_resolvers] at hq
  exact (List.mem_filter.mp hq).1

/-- the resolver table after an iteration stems from the commands so far -/
theorem resolversFrom_iter (all : List Command) (s : State) (now : Nat) (pkts : List Packet) (cmds : List Command)
    (hc : ∀ c ∈ cmds, c ∈ all) (h : ResolversFrom all s.resolvers) :
    ResolversFrom all (iter s now pkts cmds).1.resolvers := by
  rw [(same_iter s now pkts cmds).resolvers]
  apply resolversFrom_runCommands all now cmds _ hc
  intro q hq
  exact h q (preCommands_resolvers_sub s now pkts q hq)

theorem resolverChan_mem (s : State) (name : BList) (ch : Nat) (h : resolverChan s name = some ch) :
    ∃ q ∈ s.resolvers, q.1 = lower name ∧ q.2.1 = ch := by
  simp only [resolverChan, Option.map_eq_some_iff] at h
  obtain ⟨q, hq, rfl⟩ := h
  refine ⟨q, List.mem_of_find?_eq_some hq, ?_, rfl⟩
  simpa using List.find?_some hq

/-- what `evict_expired_addr` reports: expired entries of the address table -/
theorem mem_evictAddr_items (c : Cache) (now : Nat) (it : BList × BList × BList × Nat) (h : it ∈ (evictAddr c now).2) :
    ∃ p ∈ c.addr, ∃ e ∈ p.2, e.record.expires ≤ now ∧ e.record.name = it.1 ∧
      e.record.rdata = .addr it.2.1 it.2.2.1 it.2.2.2 := by
  simp only [evictAddr, List.mem_flatMap, List.mem_filterMap, List.mem_filter] at h
  obtain ⟨p, hp, e, ⟨he, hl⟩, hi⟩ := h
  refine ⟨p, hp, e, he, (not_live_iff now e).mp (by simpa using hl), ?_⟩
  unfold addrItem at hi
  split at hi
  · rename_i ip n i hr
    cases hi
    exact ⟨rfl, hr⟩
  · cases hi

theorem hremoved_evictAddrHosts (now : Nat) (items : List (BList × BList × BList × Nat)) :
    ∀ (hosts : List BList) (s : State) (ch : Nat) (host : BList) (addrs : List AddrItem),
      Out.event ch (.hremoved host addrs) ∈ (evictAddrHosts s now items hosts).2 →
      host ∈ hosts ∧ resolverChan s host = some ch ∧
      ∀ a, a ∈ addrs ↔ (host, a.1, a.2.1, a.2.2) ∈ items
  | [], _, _, _, _, h => by simp [evictAddrHosts] at h
  | h0 :: rest, s, ch, host, addrs, h => by
    simp only [evictAddrHosts, List.mem_append] at h
    rcases h with (h | h) | h
    · split at h
      · cases h
      · rename_i chan hchan
        simp only [List.mem_singleton] at h
        cases h
        refine ⟨List.mem_cons_self, hchan, ?_⟩
        intro a
        simp only [List.mem_eraseDups, List.mem_map, List.mem_filter, beq_iff_eq]
        constructor
        · rintro ⟨it, ⟨hit, hn⟩, rfl⟩
          rw [← hn]
          exact hit
        · intro hit
          exact ⟨(h0, a.1, a.2.1, a.2.2), ⟨hit, rfl⟩, rfl⟩
    · exact absurd h ((noH_resolveUpdated _ _ _).2 ch host addrs)
    · obtain ⟨h1, h2, h3⟩ := hremoved_evictAddrHosts now items rest _ ch host addrs h
      refine ⟨List.mem_cons_of_mem _ h1, ?_, h3⟩
      rw [← h2]
      exact (resolverChan_congr (same_resolveUpdated s now _).resolvers host).symm

/-- **origin of `AddressesRemoved` in the eviction phase**: the host is being resolved on that
    channel; the event lists exactly the addresses (with interface) of the entries of that
    owner name which `evict_expired_addr` removes at `now` - each of them an entry of the
    address table with `expires ≤ now` - and there is at least one -/
theorem hremoved_evictAddrPhase (s : State) (now : Nat) (ch : Nat) (host : BList) (addrs : List AddrItem)
    (h : Out.event ch (.hremoved host addrs) ∈ (evictAddrPhase s now).2) :
    resolverChan s host = some ch ∧ addrs ≠ [] ∧
    ∀ a, a ∈ addrs ↔ ∃ p ∈ s.cache.addr, ∃ e ∈ p.2, e.record.expires ≤ now ∧ e.record.name = host ∧
      e.record.rdata = .addr a.1 a.2.1 a.2.2 := by
  unfold evictAddrPhase at h
  obtain ⟨h1, h2, h3⟩ := hremoved_evictAddrHosts now _ _ _ ch host addrs h
  have hiff : ∀ a : AddrItem, a ∈ addrs ↔ ∃ p ∈ s.cache.addr, ∃ e ∈ p.2, e.record.expires ≤ now ∧ e.record.name = host ∧
      e.record.rdata = .addr a.1 a.2.1 a.2.2 := by
    intro a
    rw [h3]
    constructor
    · intro hit
      exact mem_evictAddr_items s.cache now _ hit
    · rintro ⟨p, hp, e, he, hx, hn, hr⟩
      simp only [evictAddr, List.mem_flatMap, List.mem_filterMap, List.mem_filter]
      refine ⟨p, hp, e, ⟨he, by simpa using (not_live_iff now e).mpr hx⟩, ?_⟩
      simp [addrItem, hr, hn]
  refine ⟨by simpa [resolverChan] using h2, ?_, hiff⟩
  simp only [List.mem_eraseDups, List.mem_map] at h1
  obtain ⟨it, hit, hn⟩ := h1
  intro hnil
  have : (it.2.1, it.2.2.1, it.2.2.2) ∈ addrs := by
    rw [h3]
    simp only []
    rw [← hn]
    exact hit
  rw [hnil] at this
  cases this

theorem noHR_ingress (now : Nat) (pkts : List Packet) (s : State) (ch : Nat) (h : BList) (a : List AddrItem) :
    Out.event ch (.hremoved h a) ∉ (ingress s now pkts).2 := by
  intro hm
  obtain ⟨pre, p, post, _, ho⟩ := mem_ingress_outs now _ pkts s hm
  rcases handleRead_cases (ingress s now pre).1 now p with e | ⟨intf, e⟩ <;> rw [e] at ho
  · cases ho
  unfold handleResponse at ho
  simp only [List.mem_append] at ho
  rcases ho with (ho | ho) | ho
  · exact (plain_ingestAll _ _ _ _ _ _ _ .nil).noH.2 ch h a ho
  · obtain ⟨_, _, _, _, _, he⟩ := mem_hostFoundOuts ho
    cases he
  · exact (noH_resolveUpdated _ _ _).2 ch h a ho

theorem noHR_runCommands (now : Nat) (cmds : List Command) (s : State) (ch : Nat) (h : BList) (a : List AddrItem) :
    Out.event ch (.hremoved h a) ∉ (runCommands s now cmds).2 := by
  intro hm
  obtain ⟨pre, c, post, _, ho⟩ := mem_runCommands_outs now _ cmds s hm
  cases c with
  | browse ty ch' co => exact (noH_execBrowse _ now false ty 1 co ch').2 ch h a ho
  | stopBrowse ty => exact (plain_execStopBrowse _ ty).noH.2 ch h a ho
  | resolveHost h0 ch0 t =>
    rcases mem_execResolveHost_outs ho with hp | ⟨_, p, _, he⟩
    · exact Bool.noConfusion (show true = false from hp)
    · cases he
  | stopResolve h0 => exact (plain_execStopResolve _ h0).noH.2 ch h a ho
  | ipInterval ms => simp [execCommand] at ho
  | verify inst t => exact (plain_execVerify _ now false inst t).noH.2 ch h a ho
  | metrics ch' => simp [execCommand] at ho
  | acceptUnsolicited on => simp [execCommand] at ho

/-- **origin of `AddressesRemoved` in an iteration**: the address eviction at its end -/
theorem hremoved_iter (s : State) (now : Nat) (pkts : List Packet) (cmds : List Command) (ch : Nat) (host : BList)
    (addrs : List AddrItem) (h : Out.event ch (.hremoved host addrs) ∈ (iter s now pkts cmds).2) :
    Out.event ch (.hremoved host addrs) ∈ (evictAddrPhase (evictServicesPhase (preEvict s now pkts cmds) now).1 now).2 := by
  rw [iter_eq] at h
  simp only [evictPhases, List.mem_append] at h
  rcases h with (((h | h) | h) | h) | h | h
  · exact absurd h (noHR_ingress now pkts s ch host addrs)
  · exact absurd h ((plain_runTimeouts _ _).noH.2 ch host addrs)
  · exact absurd h (noHR_runCommands now cmds _ ch host addrs)
  · exact absurd h ((plain_refreshPhases _ now).noH.2 ch host addrs)
  · exact absurd h ((noH_evictServicesPhase _ _).2 ch host addrs)
  · exact h

end Mdns.Client
