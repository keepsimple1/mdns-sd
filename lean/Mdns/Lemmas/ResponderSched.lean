import Mdns.Lemmas.ResponderQueue
/-
  ONE probe of ONE interface inside the loop (re-runs, all other probes, services and interfaces
  arbitrary): what is watched (`Watch`: the probe's times, its records, that nothing is left to
  join it), that every step of the loop tail keeps it, what `probing_handler` does with it
  (`probingOnIntf_self`, `probingHandler_probe`), one idle iteration (`iter_idle_step`,
  `iter_idle_end`) and runs of idle iterations (`idleRun_skip/_phase/_final`).
-/
namespace Mdns.Responder
open Mdns

/-! ### registry operations keep the keys of `probing` unique -/

theorem prepareAnnounceReg_keysNodup {r : Registry} (h : KeysNodup r.probing) (s : Service) (i : MyIntf) (v4 : Bool) (now j : Nat) :
    KeysNodup (prepareAnnounceReg s i r v4 now j).probing :=
  prepareAnnounceReg_ind (P := fun b => KeysNodup b.probing) s i v4 now j h fun _ _ _ _ hb => hb.aset _ _

theorem checkProbing_keysNodup {r : Registry} (h : KeysNodup r.probing) (now : Nat) : KeysNodup (checkProbing r now).reg.probing := by
  rw [checkProbing_probing]
  exact h.mapVal (fun _ p => Probe.step p now)

theorem expireProbe_active_other (intfName : BList) (acc : Registry × List Event × List BList) (name n : BList) (h : n ≠ name) :
    alookup n (expireProbe intfName acc name).1.active = alookup n acc.1.active := by
  unfold expireProbe
  split
  · rfl
  · simp only []
    split
    · rfl
    · simp only []
      exact alookup_aset_ne _ _ _ _ h

theorem handleExpiredProbes_frame (expired : List BList) (intfName : BList) (r : Registry) (n : BList)
    (hpn : KeysNodup r.probing) :
    KeysNodup (handleExpiredProbes expired intfName r).1.probing ∧
    (n ∉ expired → alookup n (handleExpiredProbes expired intfName r).1.probing = alookup n r.probing) ∧
    (n ∉ expired → alookup n (handleExpiredProbes expired intfName r).1.active = alookup n r.active) := by
  unfold handleExpiredProbes
  have := foldl_inv
    (fun (acc : Registry × List Event × List BList) =>
      KeysNodup acc.1.probing ∧ (n ∉ expired → alookup n acc.1.probing = alookup n r.probing) ∧
      (n ∉ expired → alookup n acc.1.active = alookup n r.active))
    (expireProbe intfName) expired (r, [], []) ⟨hpn, fun _ => rfl, fun _ => rfl⟩
    (fun acc name hname hacc => by
      refine ⟨?_, ?_, ?_⟩
      · rcases expireProbe_probing intfName acc name with h | h
        · rw [h]; exact hacc.1
        · rw [h]; exact hacc.1.aerase _
      · intro hn
        have hne : n ≠ name := fun e => hn (e ▸ hname)
        rcases expireProbe_probing intfName acc name with h | h
        · rw [h]; exact hacc.2.1 hn
        · rw [h, alookup_aerase_ne _ _ _ hne]; exact hacc.2.1 hn
      · intro hn
        have hne : n ≠ name := fun e => hn (e ▸ hname)
        rw [expireProbe_active_other intfName acc name n hne]
        exact hacc.2.2 hn)
  exact this

/-! ### one probe of one interface -/

/-- what is known to travel with the watched probe: records it holds, services that wait for it,
    and the `active` entry of its name (which only the end of the probe changes) -/
structure Cargo where
  recs : List RR
  waits : List BList := []
  act : Option (List RR) := none

/-- the probe of `n` in the registry of interface index `idx` has these times and carries at least `R` -/
def ProbeAt (s : State) (idx : Nat) (n : BList) (st nx : Nat) (R : Cargo) : Prop :=
  ∃ p, alookup n (s.registry idx).probing = some p ∧ p.start = st ∧ p.next = nx ∧ (∀ a ∈ R.recs, a ∈ p.records) ∧
    ∀ w ∈ R.waits, w ∈ p.waiting

/-- a probe query for `n` on interface index `idx`: a multicast query packet with the question `ANY n` -/
def asksFor (idx : Nat) (n : BList) : Out → Bool
  | .send k _ none p => k == idx && p.flags == 0 && p.questions.contains (n, TYPE_ANY)
  | _ => false

/-! ### nothing left to join the watched probe -/

/-- nothing of `a` is left to come to the probe of `n`: `a` is active, or a matching record
    sits in the probe -/
def Kept (r : Registry) (n : BList) (a : RR) : Prop :=
  r.isActive a = true ∨ ∃ p, alookup n r.probing = some p ∧ p.records.any (a.matchesRR ·) = true

/-- `r'` is `r` as far as the records named `n` go: same `active` entry, the probe of `n` (if
    there is one) still there with at least its records -/
def Ext (n : BList) (r r' : Registry) : Prop :=
  alookup n r'.active = alookup n r.active ∧
  ∀ q, alookup n r.probing = some q → ∃ p, alookup n r'.probing = some p ∧ ∀ x ∈ q.records, x ∈ p.records

theorem Ext.refl (n : BList) (r : Registry) : Ext n r r := ⟨rfl, fun q hq => ⟨q, hq, fun _ h => h⟩⟩

theorem Ext.trans {n : BList} {a b c : Registry} (h1 : Ext n a b) (h2 : Ext n b c) : Ext n a c := by
  refine ⟨h2.1.trans h1.1, fun q hq => ?_⟩
  obtain ⟨p, hp, hsub⟩ := h1.2 q hq
  obtain ⟨p', hp', hsub'⟩ := h2.2 p hp
  exact ⟨p', hp', fun x hx => hsub' x (hsub x hx)⟩

theorem Kept.ext {r r' : Registry} {n : BList} {a : RR} (h : Kept r n a) (hn : a.getName = n) (he : Ext n r r') : Kept r' n a := by
  rcases h with h | ⟨q, hq, hany⟩
  · left
    unfold Registry.isActive at *
    rw [hn] at h ⊢
    rw [he.1]
    exact h
  · right
    obtain ⟨p, hp, hsub⟩ := he.2 q hq
    refine ⟨p, hp, ?_⟩
    simp only [List.any_eq_true] at hany ⊢
    obtain ⟨x, hx, hm⟩ := hany
    exact ⟨x, hsub x hx, hm⟩

/-- what `send_unsolicited_response` keeps of the service while it walks the interfaces -/
structure SvcSame (u : Service) (svc : Service) : Prop where
  uniq : ∀ i r v, uniqueRecords u i r v = uniqueRecords svc i r v
  addrs : ∀ i v, addrsOn u i v = addrsOn svc i v
  probe : u.probe = svc.probe
  full : u.fullname = svc.fullname

theorem SvcSame.refl (svc : Service) : SvcSame svc svc := ⟨fun _ _ _ => rfl, fun _ _ => rfl, rfl, rfl⟩

theorem SvcSame.setStatus {u svc : Service} (h : SvcSame u svc) (k : Nat) (st : Status) : SvcSame (u.setStatus k st) svc :=
  ⟨fun i r v => h.uniq i r v, fun i v => h.addrs i v, h.probe, h.full⟩

/-- no record of the service is left to come to the probe of `n` on the interfaces of index `idx`:
    if the service requires probing, each of its unique records named `n` (of a family in
    which it has an in-subnet address) is active or matched in the probe -/
def SvcSettled (r : Registry) (intfs : List MyIntf) (idx : Nat) (n : BList) (svc : Service) : Prop :=
  svc.probe = true → ∀ i ∈ intfs, i.index = idx → ∀ v4, addrsOn svc i v4 ≠ [] →
    ∀ a ∈ uniqueRecords svc i {} v4, a.getName = n → Kept r n a

theorem SvcSettled.ext {r r' : Registry} {intfs : List MyIntf} {idx : Nat} {n : BList} {svc : Service}
    (h : SvcSettled r intfs idx n svc) (he : Ext n r r') : SvcSettled r' intfs idx n svc :=
  fun hp i hi hidx v4 hne a ha hn => (h hp i hi hidx v4 hne a ha hn).ext hn he

theorem SvcSettled.same {r : Registry} {intfs : List MyIntf} {idx : Nat} {n : BList} {svc u : Service}
    (h : SvcSettled r intfs idx n svc) (hs : SvcSame u svc) : SvcSettled r intfs idx n u :=
  fun hp i hi hidx v4 hne a ha hn =>
    h (hs.probe ▸ hp) i hi hidx v4 (by rw [← hs.addrs]; exact hne) a (by rw [← hs.uniq]; exact ha) hn

/-- no record of any registered service is left to come to the probe of `n` on interface index
    `idx` (true of the states a daemon reaches by registrations while no conflict renames
    anything: a registration leaves every unique record active or in the probe of its name) -/
def Settled (s : State) (idx : Nat) (n : BList) : Prop :=
  ∀ k svc, alookup k s.services = some svc → SvcSettled (s.registry idx) s.intfs idx n svc

theorem Settled.transfer {s s' : State} {idx : Nat} {n : BList} (h : Settled s idx n)
    (he : Ext n (s.registry idx) (s'.registry idx)) (hi : s'.intfs = s.intfs)
    (hs : ∀ k svc', alookup k s'.services = some svc' → ∃ svc, alookup k s.services = some svc ∧ SvcSame svc' svc) :
    Settled s' idx n := by
  intro k svc' hk
  obtain ⟨svc, hsvc, hsame⟩ := hs k svc' hk
  rw [hi]
  exact ((h k svc hsvc).ext he).same hsame

theorem services_aset_status {l : List (BList × Service)} {key : BList} {u0 : Service} (idx : Nat) (x : Status)
    (h0 : alookup key l = some u0) :
    ∀ k svc', alookup k (aset key (u0.setStatus idx x) l) = some svc' → ∃ svc, alookup k l = some svc ∧ SvcSame svc' svc := by
  intro k svc' hk
  by_cases e : k = key
  · subst e
    rw [alookup_aset_self] at hk
    cases hk
    exact ⟨u0, h0, (SvcSame.refl u0).setStatus idx x⟩
  · rw [alookup_aset_ne _ _ _ _ e] at hk
    exact ⟨svc', hk, SvcSame.refl svc'⟩

/-! ### `is_probing_done` and an existing probe -/

/-- a record that is not active comes to an existing probe: no record and no waiting service is lost;
    and if nothing of the record is left to come to it, its times stay -/
theorem probeInsert_grows (r : Registry) (a : RR) (svc : BList) (t : Nat) (n : BList) (q : Probe)
    (hq : alookup n r.probing = some q) (hina : r.isActive a = false) :
    ∃ p, alookup n (r.probeInsert a svc t).probing = some p ∧
      (∀ x ∈ q.records, x ∈ p.records) ∧ (∀ w ∈ q.waiting, w ∈ p.waiting) ∧
      ((a.getName = n → Kept r n a) → p.start = q.start ∧ p.next = q.next) := by
  by_cases e : n = a.getName
  · subst e
    simp only [Registry.probeInsert, alookup_aset_self, hq, Option.getD_some]
    refine ⟨_, rfl, Probe.join_records_mono q a svc t, fun w hw => ?_, fun hk => ?_⟩
    · rw [Probe.join_waiting]
      exact (mem_sinsert svc w _).mpr (Or.inr hw)
    · rcases hk trivial with hact | ⟨p, hp, hany⟩
      · rw [hina] at hact; cases hact
      · cases hq.symm.trans hp
        rcases Probe.join_times q a svc t with ⟨h1, h2, _⟩ | ⟨_, _, h3⟩
        · exact ⟨h1, h2⟩
        · rw [(Probe.restarts_spec h3).1] at hany
          cases hany
  · exact ⟨q, by simp only [Registry.probeInsert]; rw [alookup_aset_ne _ _ _ _ e]; exact hq,
      fun _ h => h, fun _ h => h, fun _ => ⟨rfl, rfl⟩⟩

theorem prepareAnnounceReg_grows (s : Service) (i : MyIntf) (r : Registry) (v4 : Bool) (now j : Nat) (n : BList) (q : Probe)
    (hq : alookup n r.probing = some q) :
    ∃ p, alookup n (prepareAnnounceReg s i r v4 now j).probing = some p ∧
      (∀ x ∈ q.records, x ∈ p.records) ∧ (∀ w ∈ q.waiting, w ∈ p.waiting) ∧
      ((s.probe = true → addrsOn s i v4 ≠ [] → ∀ a ∈ uniqueRecords s i r v4, a.getName = n → Kept r n a) →
        p.start = q.start ∧ p.next = q.next) :=
  (prepareAnnounceReg_ind_branch (P := fun b => b.active = r.active ∧ ∃ p, alookup n b.probing = some p ∧
      (∀ x ∈ q.records, x ∈ p.records) ∧ (∀ w ∈ q.waiting, w ∈ p.waiting) ∧
      ((s.probe = true → addrsOn s i v4 ≠ [] → ∀ a ∈ uniqueRecords s i r v4, a.getName = n → Kept r n a) →
        p.start = q.start ∧ p.next = q.next))
    s i v4 now j ⟨rfl, q, hq, fun _ h => h, fun _ h => h, fun _ => ⟨rfl, rfl⟩⟩
    fun hpr hne b a ha hina ⟨hact, p, hp, h3, h4, h5⟩ => by
      obtain ⟨p', hp', h3', h4', h5'⟩ := probeInsert_grows b a s.fullname (now + j) n p hp hina
      refine ⟨hact, p', hp', fun x hx => h3' x (h3 x hx), fun w hw => h4' w (h4 w hw), fun hk => ?_⟩
      -- the record is kept in `r`, so in `b`: same `active`, and the probe of `n` only grew
      have hkb : a.getName = n → Kept b n a := fun hn =>
        (hk hpr hne a ha hn).ext hn ⟨by rw [hact], fun q' hq' => by cases hq.symm.trans hq'; exact ⟨p, hp, h3⟩⟩
      exact ⟨(h5' hkb).1.trans (h5 hk).1, (h5' hkb).2.trans (h5 hk).2⟩).2

theorem prepareAnnounceReg_ext (s : Service) (i : MyIntf) (r : Registry) (v4 : Bool) (now j : Nat) (n : BList) :
    Ext n r (prepareAnnounceReg s i r v4 now j) := by
  refine ⟨by rw [(prepareAnnounceReg_active s i r v4 now j).1], fun q hq => ?_⟩
  obtain ⟨p, hp, h3, _, _⟩ := prepareAnnounceReg_grows s i r v4 now j n q hq
  exact ⟨p, hp, h3⟩

theorem announce_pair_ext (svc : Service) (i : MyIntf) (r0 : Registry) (now j : Nat) (n : BList) :
    Ext n r0 (announcePair svc i r0 now j) :=
  (prepareAnnounceReg_ext svc i r0 true now j n).trans (prepareAnnounceReg_ext svc i _ false now j n)

/-- the two calls of `announce_service_on_intf` keep an existing probe - times and records - when
    no record of the service is left to come to it -/
theorem announce_pair_probe (svc : Service) (i : MyIntf) (r0 : Registry) (now j : Nat) (n : BList) (st nx : Nat) (R : Cargo)
    (h : ∃ p, alookup n r0.probing = some p ∧ p.start = st ∧ p.next = nx ∧ (∀ a ∈ R.recs, a ∈ p.records) ∧
      ∀ w ∈ R.waits, w ∈ p.waiting)
    (hk : svc.probe = true → ∀ v4, addrsOn svc i v4 ≠ [] → ∀ a ∈ uniqueRecords svc i r0 v4, a.getName = n → Kept r0 n a) :
    ∃ p, alookup n (announcePair svc i r0 now j).probing = some p ∧
      p.start = st ∧ p.next = nx ∧ (∀ a ∈ R.recs, a ∈ p.records) ∧ ∀ w ∈ R.waits, w ∈ p.waiting := by
  obtain ⟨p, hp, h1, h2, h3, h4⟩ := h
  obtain ⟨p1, hp1, a3, a4, a5⟩ := prepareAnnounceReg_grows svc i r0 true now j n p hp
  obtain ⟨p2, hp2, b3, b4, b5⟩ := prepareAnnounceReg_grows svc i (prepareAnnounceReg svc i r0 true now j) false now j n p1 hp1
  have ha := a5 (fun hpr hne => hk hpr true hne)
  have hb := b5 (fun hpr hne a ha hn => by
    rw [uniqueRecords_congr (prepareAnnounceReg_active svc i r0 true now j).2] at ha
    exact (hk hpr false hne a ha hn).ext hn (prepareAnnounceReg_ext svc i r0 true now j n))
  exact ⟨p2, hp2, hb.1.trans (ha.1.trans h1), hb.2.trans (ha.2.trans h2), fun a ha => b3 a (a3 a (h3 a ha)),
    fun w hw => b4 w (a4 w (h4 w hw))⟩

theorem announce_pair_keysNodup (svc : Service) (i : MyIntf) {r0 : Registry} (h : KeysNodup r0.probing) (now j : Nat) :
    KeysNodup (announcePair svc i r0 now j).probing :=
  prepareAnnounceReg_keysNodup (prepareAnnounceReg_keysNodup h svc i true now j) svc i false now j

/-- what is watched across the steps of an idle iteration: the probe's times, unique keys and
    no renames in that registry, the `active` entry of the name, and that no record of a
    registered service is left to come to the probe (it would start the probe over) -/
structure Watch (s : State) (idx : Nat) (n : BList) (st nx : Nat) (R : Cargo) : Prop where
  probe : ProbeAt s idx n st nx R
  pn : KeysNodup (s.registry idx).probing
  noRen : NoRen (s.registry idx)
  act : alookup n (s.registry idx).active = R.act
  settled : Settled s idx n

theorem Watch.of_parts {s s' : State} {idx : Nat} {n : BList} {st nx : Nat} {R : Cargo} (h : Watch s idx n st nx R)
    (hp : (s'.registry idx).probing = (s.registry idx).probing) (ha : (s'.registry idx).active = (s.registry idx).active)
    (hn : (s'.registry idx).nameChanges = (s.registry idx).nameChanges) (hi : s'.intfs = s.intfs)
    (hs : ∀ k svc', alookup k s'.services = some svc' → ∃ svc, alookup k s.services = some svc ∧ SvcSame svc' svc) :
    Watch s' idx n st nx R :=
  ⟨by unfold ProbeAt; rw [hp]; exact h.probe, by rw [hp]; exact h.pn,
    ⟨hn.trans h.noRen.1, fun k p hm => h.noRen.2 k p (hp ▸ hm)⟩, by rw [ha]; exact h.act,
    h.settled.transfer ⟨by rw [ha], fun q hq => ⟨q, by rw [hp]; exact hq, fun _ hx => hx⟩⟩ hi hs⟩

theorem Watch.transfer {s s' : State} {idx : Nat} {n : BList} {st nx : Nat} {R : Cargo} (h : Watch s idx n st nx R)
    (e : s'.registry idx = s.registry idx) (hi : s'.intfs = s.intfs)
    (hs : ∀ k svc', alookup k s'.services = some svc' → ∃ svc, alookup k s.services = some svc ∧ SvcSame svc' svc) :
    Watch s' idx n st nx R :=
  h.of_parts (by rw [e]) (by rw [e]) (by rw [e]) hi hs

theorem Watch.drain {acc : State × List Out} {idx : Nat} {n : BList} {st nx : Nat} {R : Cargo} (h : Watch acc.1 idx n st nx R)
    (k : Nat) : Watch (drainNewTimers k acc).1 idx n st nx R := by
  by_cases e : idx = k
  · subst e
    have er := drainNewTimers_registry_self idx acc
    exact h.of_parts (by rw [er]) (by rw [er]) (by rw [er]) rfl (fun _ svc' hk => ⟨svc', hk, SvcSame.refl _⟩)
  · exact h.transfer (drainNewTimers_registry_ne k idx acc e) rfl (fun _ svc' hk => ⟨svc', hk, SvcSame.refl _⟩)

theorem Watch.setRegistry_other {s : State} {idx : Nat} {n : BList} {st nx : Nat} {R : Cargo} (h : Watch s idx n st nx R)
    (k : Nat) (r : Registry) (hk : k ≠ idx) : Watch (s.setRegistry k r) idx n st nx R :=
  h.transfer (registry_setRegistry_ne s k idx r (Ne.symm hk)) rfl (fun _ svc' hk => ⟨svc', hk, SvcSame.refl _⟩)

theorem Watch.congr {s s' : State} {idx : Nat} {n : BList} {st nx : Nat} {R : Cargo} (h : Watch s idx n st nx R)
    (hr : s'.registries = s.registries) (hs : s'.services = s.services) (hi : s'.intfs = s.intfs) : Watch s' idx n st nx R :=
  h.transfer (registry_congr hr idx) hi (fun _ svc' hk => ⟨svc', hs ▸ hk, SvcSame.refl _⟩)

theorem Watch.announce_pair {s : State} {idx : Nat} {n : BList} {st nx : Nat} {R : Cargo} (h : Watch s idx n st nx R)
    (svc : Service) (i : MyIntf) (now j : Nat) {k : BList} (hsvc : alookup k s.services = some svc) (hi : i ∈ s.intfs) :
    Watch (s.setRegistry i.index
      (announcePair svc i (s.registry i.index) now j)) idx n st nx R := by
  by_cases e : i.index = idx
  · have er : (s.setRegistry i.index
        (announcePair svc i (s.registry i.index) now j)).registry idx =
        announcePair svc i (s.registry i.index) now j := by
      rw [← e]; exact registry_setRegistry_self _ _ _
    refine ⟨?_, ?_, ?_, ?_, ?_⟩
    · unfold ProbeAt
      rw [er]
      refine announce_pair_probe svc i _ now j n st nx R (by rw [e]; exact h.probe) ?_
      intro hpr v4 hne a ha hn
      rw [e]
      rw [e, uniqueRecords_congr (r := {}) h.noRen.1] at ha
      exact h.settled k svc hsvc hpr i hi e v4 hne a ha hn
    · rw [er]; exact announce_pair_keysNodup svc i (by rw [e]; exact h.pn) now j
    · rw [er]; exact announce_pair_noRen svc i (by rw [e]; exact h.noRen) now j
    · rw [er, (prepareAnnounceReg_active svc i _ false now j).1, (prepareAnnounceReg_active svc i _ true now j).1, e]
      exact h.act
    · refine h.settled.transfer ?_ rfl (fun _ svc' hk => ⟨svc', hk, SvcSame.refl _⟩)
      rw [er, ← e]
      exact announce_pair_ext svc i _ now j n
  · exact h.setRegistry_other _ _ e

/-! ### outputs that are not probe queries -/

theorem sendsOf_not_asks (svc : Service) (i : MyIntf) (r r' : Registry) (idx : Nat) (n : BList) :
    ∀ o ∈ sendsOf i (prepareAnnouncePkt svc i r true) (prepareAnnouncePkt svc i r' false), asksFor idx n o = false := by
  have key : ∀ r v p, prepareAnnouncePkt svc i r v = some p → asksFor idx n (.send i.index v none p) = false :=
    fun r v p hp => by simp [asksFor, (prepareAnnouncePkt_some hp).2.2.2.1, FLAGS_RESPONSE]
  intro o ho
  simp only [sendsOf, List.mem_append] at ho
  rcases ho with ho | ho
  · cases hp : prepareAnnouncePkt svc i r true <;> simp [hp] at ho
    exact ho ▸ key _ _ _ hp
  · cases hp : prepareAnnouncePkt svc i r' false <;> simp [hp] at ho
    exact ho ▸ key _ _ _ hp

theorem notify_not_asks (s : State) (e : Event) (idx : Nat) (n : BList) : ∀ o ∈ notify s e, asksFor idx n o = false := by
  intro o ho
  simp only [notify, List.mem_map] at ho
  obtain ⟨_, _, rfl⟩ := ho
  rfl

theorem wakeService_keeps (now j : Nat) (i : MyIntf) (acc : State × List Out) (name : BList) (idx : Nat) (n : BList)
    (st nx : Nat) (R : Cargo) (h : Watch acc.1 idx n st nx R) (hi : i ∈ acc.1.intfs) :
    Watch (wakeService now j i acc name).1 idx n st nx R := by
  rcases wakeService_cases now j i acc name with e | ⟨svc, hsvc, _, e | ⟨_, e⟩⟩ <;> rw [e]
  · exact h
  · exact h.announce_pair svc i now j hsvc hi
  · exact (h.announce_pair svc i now j hsvc hi).transfer rfl rfl (services_aset_status i.index .announced hsvc)

theorem wakeService_outs (now j : Nat) (i : MyIntf) (acc : State × List Out) (name : BList) (idx : Nat) (n : BList) :
    ∀ o ∈ (wakeService now j i acc name).2, o ∈ acc.2 ∨ asksFor idx n o = false := by
  rcases wakeService_cases now j i acc name with e | ⟨svc, _, _, e | ⟨_, e⟩⟩ <;> rw [e]
  · exact fun o h => Or.inl h
  · exact fun o h => Or.inl h
  · intro o hom
    simp only [List.mem_append] at hom
    rcases hom with (hom | hom) | hom
    · exact Or.inl hom
    · exact Or.inr (sendsOf_not_asks svc i _ _ idx n o hom)
    · exact Or.inr (notify_not_asks _ _ idx n o hom)

theorem wakeService_mono (now j : Nat) (i : MyIntf) (acc : State × List Out) (name : BList) (o : Out) (h : o ∈ acc.2) :
    o ∈ (wakeService now j i acc name).2 := by
  rcases wakeService_cases now j i acc name with e | ⟨_, _, _, e | ⟨_, e⟩⟩ <;> rw [e]
  · exact h
  · exact h
  · simp only [List.mem_append]; exact Or.inl (Or.inl h)

theorem foldl_wake_keeps (now j : Nat) (i : MyIntf) (names : List BList) (acc : State × List Out) (idx : Nat) (n : BList)
    (st nx : Nat) (R : Cargo) (h : Watch acc.1 idx n st nx R) (hi : i ∈ acc.1.intfs) :
    Watch (names.foldl (wakeService now j i) acc).1 idx n st nx R :=
  (foldl_inv (fun (a : State × List Out) => Watch a.1 idx n st nx R ∧ a.1.intfs = acc.1.intfs) _ _ _ ⟨h, rfl⟩
    (fun a nm _ ha => ⟨wakeService_keeps now j i a nm idx n st nx R ha.1 (ha.2 ▸ hi),
      (wakeService_frame now j i a nm).1.trans ha.2⟩)).1

theorem probingOnIntf_mono (now j : Nat) (acc : State × List Out) (i : MyIntf) (o : Out) (h : o ∈ acc.2) :
    o ∈ (probingOnIntf now j acc i).2 :=
  probingOnIntf_ind (P := fun a => o ∈ a.2) now j acc i (fun _ => h)
    (fun _ _ => List.mem_append_left _ (List.mem_append_left _ h)) (fun a nm => wakeService_mono now j i a nm o) fun _ => id

theorem probeSends_index (i : MyIntf) (pr : Probing) : ∀ o ∈ probeSends i pr,
    ∃ v4, o = Out.send i.index v4 none { flags := 0, questions := pr.questions, authorities := pr.authorities } := by
  intro o ho
  unfold probeSends at ho
  split at ho
  · simp at ho
  · simp only [List.mem_append] at ho
    rcases ho with ho | ho
    · split at ho
      · simp only [List.mem_cons, List.not_mem_nil, or_false] at ho; exact ⟨true, ho⟩
      · simp at ho
    · split at ho
      · simp only [List.mem_cons, List.not_mem_nil, or_false] at ho; exact ⟨false, ho⟩
      · simp at ho

/-- The step of `probing_handler` for interface `i` sends no probe query for `n` on interface index
    `idx`, unless `i` has that index and `check_probing` asks for `n` there. -/
theorem probingOnIntf_outs (now j : Nat) (acc : State × List Out) (i : MyIntf) (idx : Nat) (n : BList)
    (hq : ∀ r, alookup i.index acc.1.registries = some r → i.index = idx → (n, TYPE_ANY) ∉ (checkProbing r now).questions) :
    ∀ o ∈ (probingOnIntf now j acc i).2, o ∈ acc.2 ∨ asksFor idx n o = false := by
  refine probingOnIntf_ind (P := fun a => ∀ o ∈ a.2, o ∈ acc.2 ∨ asksFor idx n o = false) now j acc i
    (fun _ o h => Or.inl h) (fun r hreg o hom => ?_)
    (fun a nm ha o ho => (wakeService_outs now j i a nm idx n o ho).elim (ha o) Or.inr) fun _ => id
  simp only [probed, List.mem_append] at hom
  rcases hom with (hom | hom) | hom
  · exact Or.inl hom
  · obtain ⟨v4, rfl⟩ := probeSends_index i _ o hom
    by_cases e : i.index = idx
    · exact Or.inr (by simp [asksFor, hq r hreg e])
    · exact Or.inr (by simp [asksFor, e])
  · obtain ⟨e, _, he⟩ := List.mem_flatMap.mp hom
    exact Or.inr (notify_not_asks _ e idx n o he)

theorem probingOnIntf_other_keeps (now j : Nat) (acc : State × List Out) (i' : MyIntf) (idx : Nat) (n : BList) (st nx : Nat)
    (R : Cargo) (hne : i'.index ≠ idx) (h : Watch acc.1 idx n st nx R) (hi : i' ∈ acc.1.intfs) :
    Watch (probingOnIntf now j acc i').1 idx n st nx R := by
  cases hreg : alookup i'.index acc.1.registries with
  | none => rw [probingOnIntf_none hreg]; exact h
  | some r =>
    rw [probingOnIntf_some hreg]
    apply Watch.drain
    apply foldl_wake_keeps
    · exact (h.setRegistry_other i'.index _ hne).congr rfl rfl rfl
    · exact hi

theorem probe_survives {r : Registry} {n : BList} {p : Probe} (now : Nat) (intfName : BList)
    (hl : alookup n r.probing = some p) (hpn : KeysNodup r.probing) (hnr : NoRen r) (hact : p.action now ≠ .expire) :
    alookup n (handleExpiredProbes (checkProbing r now).expired intfName (checkProbing r now).reg).1.probing = some (p.step now) ∧
    KeysNodup (handleExpiredProbes (checkProbing r now).expired intfName (checkProbing r now).reg).1.probing ∧
    NoRen (handleExpiredProbes (checkProbing r now).expired intfName (checkProbing r now).reg).1 ∧
    alookup n (handleExpiredProbes (checkProbing r now).expired intfName (checkProbing r now).reg).1.active = alookup n r.active := by
  have hnotexp : n ∉ (checkProbing r now).expired := by
    intro hin
    simp only [checkProbing, List.mem_map, List.mem_filter] at hin
    obtain ⟨⟨n', p'⟩, ⟨hm, ha⟩, heq⟩ := hin
    simp only at heq
    subst heq
    have := alookup_of_mem hpn hm
    rw [hl] at this
    cases this
    exact hact (by simpa using ha)
  have hf := handleExpiredProbes_frame (checkProbing r now).expired intfName (checkProbing r now).reg n (checkProbing_keysNodup hpn now)
  refine ⟨?_, hf.1, (handleExpiredProbes_spec _ intfName _ (checkProbing_noRen hnr now)).1, hf.2.2 hnotexp⟩
  have hm := alookup_mapVal n (fun _ p => Probe.step p now) r.probing
  rw [hf.2.1 hnotexp, checkProbing_probing, hm, hl]
  rfl

theorem checkProbing_asks_iff {r : Registry} {n : BList} {p : Probe} (now : Nat)
    (hl : alookup n r.probing = some p) (hpn : KeysNodup r.probing) :
    (n, TYPE_ANY) ∈ (checkProbing r now).questions ↔ p.action now = .send := by
  constructor
  · intro h
    obtain ⟨_, p', hm, ha⟩ := checkProbing_question h
    have := alookup_of_mem hpn hm
    rw [hl] at this
    cases this
    exact ha
  · intro ha
    exact (checkProbing_sends (alookup_mem hl) ha).1

theorem probe_step_times (p : Probe) (now : Nat) :
    (p.step now).start = (if p.action now = .send then p.start + (now - p.next) else p.start) ∧
    (p.step now).next = (if p.action now = .send then now + 250 else p.next) := by
  unfold Probe.step
  cases h : p.action now <;> simp

theorem expireProbe_waiting_mono (intfName : BList) (acc : Registry × List Event × List BList) (name w : BList)
    (h : w ∈ acc.2.2) : w ∈ (expireProbe intfName acc name).2.2 := by
  unfold expireProbe
  split
  · exact h
  · simp only []
    split
    · exact h
    · exact foldl_sinsert_mem w _ _ (Or.inr h)

/-- a probe that ends among the expired ones: its records become active and - if it has any - the
    services that waited for it are woken -/
theorem foldl_expire_activates (intfName : BList) (n : BList) (p : Probe) :
    ∀ (expired : List BList) (acc : Registry × List Event × List BList), n ∈ expired →
      alookup n acc.1.probing = some p → NoRen acc.1 →
      (∀ a ∈ p.records, a.getName = n → (expired.foldl (expireProbe intfName) acc).1.isActive a = true) ∧
      (p.records ≠ [] → ∀ w ∈ p.waiting, w ∈ (expired.foldl (expireProbe intfName) acc).2.2) := by
  intro expired
  induction expired with
  | nil => intro acc h; simp at h
  | cons name rest ih =>
    intro acc hin hl hnr
    simp only [List.foldl_cons]
    by_cases e : name = n
    · subst e
      obtain ⟨hact, _, hwait⟩ := expireProbe_activates intfName acc name p hl hnr
      -- the later ones take nothing back
      exact (foldl_inv (fun (b : Registry × List Event × List BList) => NoRen b.1 ∧
          ((∀ a ∈ p.records, a.getName = name → b.1.isActive a = true) ∧ (p.records ≠ [] → ∀ w ∈ p.waiting, w ∈ b.2.2)))
        (expireProbe intfName) rest (expireProbe intfName acc name) ⟨(expireProbe_spec intfName acc name hnr).1, hact, hwait⟩
        (fun b nm _ hb => ⟨(expireProbe_spec intfName b nm hb.1).1,
          fun a ha hn => (expireProbe_spec intfName b nm hb.1).2.2 a (hb.2.1 a ha hn),
          fun hne w hw => expireProbe_waiting_mono intfName b nm w (hb.2.2 hne w hw)⟩)).2
    · have hin' : n ∈ rest := by
        rcases List.mem_cons.mp hin with h | h
        · exact absurd h.symm e
        · exact h
      have hl' : alookup n (expireProbe intfName acc name).1.probing = some p := by
        rcases expireProbe_probing intfName acc name with h | h
        · rw [h]; exact hl
        · rw [h, alookup_aerase_ne _ _ _ (fun x => e x.symm)]; exact hl
      exact ih _ hin' hl' (expireProbe_spec intfName acc name hnr).1

theorem wakeService_stle (now j : Nat) (i : MyIntf) (acc : State × List Out) (name : BList) :
    StLe acc.1 (wakeService now j i acc name).1 := by
  rcases wakeService_cases now j i acc name with e | ⟨svc, _, _, e | ⟨_, e⟩⟩ <;> rw [e]
  · exact StLe.refl _
  · exact StLe.setRegistry (announce_pair_le svc i _ now j)
  · exact (StLe.setRegistry (announce_pair_le svc i _ now j)).trans (StLe.of_eq rfl rfl)

/-- The step of `probing_handler` for the interface of the watched probe `p` of `n`.  While the probe
    does not end it is kept, with `next_send` moved 250 ms ahead if it sent; a probe query for `n`
    leaves (on every family of the interface) exactly if the probe sends; when it ends, its records
    (filed under `n`) are active. -/
theorem probingOnIntf_self (now j : Nat) (acc : State × List Out) (i : MyIntf) (n : BList) (p : Probe)
    (hl : alookup n (acc.1.registry i.index).probing = some p) (hpn : KeysNodup (acc.1.registry i.index).probing)
    (hnr : NoRen (acc.1.registry i.index)) :
    (p.action now ≠ .expire → Settled acc.1 i.index n → i ∈ acc.1.intfs →
      Watch (probingOnIntf now j acc i).1 i.index n (if p.action now = .send then p.start + (now - p.next) else p.start)
        (if p.action now = .send then now + 250 else p.next) ⟨p.records, p.waiting, alookup n (acc.1.registry i.index).active⟩) ∧
    (p.action now ≠ .send → ∀ o ∈ (probingOnIntf now j acc i).2, o ∈ acc.2 ∨ asksFor i.index n o = false) ∧
    (p.action now = .send → ∀ v4, i.hasFamily v4 = true → ∃ pkt, Out.send i.index v4 none pkt ∈ (probingOnIntf now j acc i).2 ∧
      pkt.flags = 0 ∧ (n, TYPE_ANY) ∈ pkt.questions ∧ ∀ a ∈ p.records, a ∈ pkt.authorities) ∧
    (p.action now = .expire →
      ∀ a ∈ p.records, a.getName = n → ((probingOnIntf now j acc i).1.registry i.index).isActive a = true) := by
  cases hreg : alookup i.index acc.1.registries with
  | none =>
    rw [registry_of_none hreg] at hl
    cases hl
  | some r =>
    have hr : acc.1.registry i.index = r := registry_of_lookup hreg
    rw [hr] at hl hpn hnr ⊢
    refine ⟨?_, fun hns => probingOnIntf_outs now j acc i i.index n fun r' hr' _ => ?_, ?_, ?_⟩
    · intro hact hset hi
      obtain ⟨hs1, hs2, hs3, hs4⟩ := probe_survives now i.name hl hpn hnr hact
      have hext : Ext n r (handleExpiredProbes (checkProbing r now).expired i.name (checkProbing r now).reg).1 :=
        ⟨hs4, fun q hq => by
          rw [hl] at hq; cases hq
          exact ⟨_, hs1, fun x hx => by rw [Probe.step_records]; exact hx⟩⟩
      obtain ⟨ht1, ht2⟩ := probe_step_times p now
      have e := probed_registry_self now acc i r
      rw [probingOnIntf_some hreg]
      refine Watch.drain (foldl_wake_keeps now j i _ (probed now acc i r) i.index n _ _ _ ?_ hi) _
      exact ⟨⟨p.step now, by rw [e]; exact hs1, ht1, ht2, fun a h => by rw [Probe.step_records]; exact h,
          fun w h => by unfold Probe.step; split <;> exact h⟩,
        by rw [e]; exact hs2, by rw [e]; exact hs3, by rw [e]; exact hs4,
        hset.transfer (by rw [e, hr]; exact hext) rfl (fun _ svc' hk => ⟨svc', hk, SvcSame.refl _⟩)⟩
    · rw [hreg] at hr'; cases hr'
      rwa [checkProbing_asks_iff now hl hpn]
    · intro hsend v4 hfam
      obtain ⟨hq, hauth, _, _⟩ := checkProbing_sends (alookup_mem hl) hsend
      refine ⟨{ flags := 0, questions := (checkProbing r now).questions, authorities := (checkProbing r now).authorities },
        ?_, rfl, hq, hauth⟩
      rw [probingOnIntf_some hreg]
      refine foldl_inv (fun a => _ ∈ a.2) _ _ _ ?_ fun a nm _ ha => wakeService_mono now j i a nm _ ha
      simp only [probed, List.mem_append]
      refine Or.inl (Or.inr ?_)
      have hne : (checkProbing r now).questions.isEmpty = false := by
        cases hqs : (checkProbing r now).questions with
        | nil => rw [hqs] at hq; simp at hq
        | cons _ _ => rfl
      unfold probeSends
      simp only [hne, Bool.false_eq_true, ↓reduceIte, List.mem_append]
      cases v4
      · right; simp [hfam]
      · left; simp [hfam]
    · intro hact a ha hname
      have hin : n ∈ (checkProbing r now).expired := by
        simp only [checkProbing, List.mem_map, List.mem_filter]
        exact ⟨(n, p), ⟨alookup_mem hl, by simp [hact]⟩, rfl⟩
      have hl' : alookup n (checkProbing r now).reg.probing = some (p.step now) := by
        rw [checkProbing_probing, alookup_mapVal n (fun _ p => Probe.step p now) r.probing, hl]; rfl
      have hle : StLe (probed now acc i r).1 _ := foldl_inv (fun (a : State × List Out) => StLe (probed now acc i r).1 a.1)
        (wakeService now j i) (handleExpiredProbes (checkProbing r now).expired i.name (checkProbing r now).reg).2.2 _ (StLe.refl _)
        fun a nm _ ha => ha.trans (wakeService_stle now j i a nm)
      rw [probingOnIntf_some hreg, drainNewTimers_registry_self]
      show Registry.isActive _ a = true
      apply (hle.2 i.index).2 a
      rw [probed_registry_self]
      exact (foldl_expire_activates i.name n (p.step now) (checkProbing r now).expired
        ((checkProbing r now).reg, [], []) hin hl' (checkProbing_noRen hnr now)).1 a (by rw [Probe.step_records]; exact ha) hname

/-! ### `probing_handler` as a whole -/

theorem wakeService_registry_other (now j : Nat) (i : MyIntf) (acc : State × List Out) (name : BList) (idx : Nat)
    (h : i.index ≠ idx) : (wakeService now j i acc name).1.registry idx = acc.1.registry idx := by
  rcases wakeService_cases now j i acc name with e | ⟨_, _, _, e | ⟨_, e⟩⟩ <;> rw [e]
  · exact registry_setRegistry_ne _ _ _ _ (Ne.symm h)
  · exact (registry_congr (s := acc.1.setRegistry i.index _) rfl idx).trans (registry_setRegistry_ne _ _ _ _ (Ne.symm h))

theorem probingOnIntf_registry_other (now j : Nat) (acc : State × List Out) (i : MyIntf) (idx : Nat) (h : i.index ≠ idx) :
    (probingOnIntf now j acc i).1.registry idx = acc.1.registry idx :=
  probingOnIntf_ind (P := fun a => a.1.registry idx = acc.1.registry idx) now j acc i (fun _ => rfl)
    (fun r _ => probed_registry_ne now acc i r (Ne.symm h)) (fun a nm ha => (wakeService_registry_other now j i a nm idx h).trans ha)
    fun a ha => (drainNewTimers_registry_ne i.index idx a (Ne.symm h)).trans ha

/-- the interfaces: `i` once, every other interface with another index.  `l1`, `l2` (what stands before and
    after `i`) are parameters because `probing_handler` is a fold over the interfaces and the proofs split it
    there; the bundles built on it (`Good`, `After`, `AllProbed`) and the theorems of C07 carry them along. -/
structure IntfsOk (s : State) (i : MyIntf) (l1 l2 : List MyIntf) : Prop where
  split : s.intfs = l1 ++ i :: l2
  other : ∀ i' ∈ l1 ++ l2, i'.index ≠ i.index

theorem IntfsOk.unique {s : State} {i : MyIntf} {l1 l2 : List MyIntf} (h : IntfsOk s i l1 l2) {i' : MyIntf}
    (hm : i' ∈ s.intfs) (hidx : i'.index = i.index) : i' = i := by
  rw [h.split] at hm
  simp only [List.mem_append, List.mem_cons] at hm
  rcases hm with hm | rfl | hm
  · exact absurd hidx (h.other i' (List.mem_append.mpr (Or.inl hm)))
  · rfl
  · exact absurd hidx (h.other i' (List.mem_append.mpr (Or.inr hm)))

theorem IntfsOk.mem {s : State} {i : MyIntf} {l1 l2 : List MyIntf} (h : IntfsOk s i l1 l2) : i ∈ s.intfs := by
  rw [h.split]; simp

theorem IntfsOk.find {s : State} {i : MyIntf} {l1 l2 : List MyIntf} (h : IntfsOk s i l1 l2) :
    s.intfs.find? (·.index == i.index) = some i := by
  rw [h.split, List.find?_append]
  have h1 : l1.find? (·.index == i.index) = none := by
    rw [List.find?_eq_none]
    intro x hx
    have := h.other x (List.mem_append.mpr (Or.inl hx))
    simpa using this
  simp [h1]

theorem IntfsOk.congr {s s' : State} {i : MyIntf} {l1 l2 : List MyIntf} (h : IntfsOk s i l1 l2) (e : s'.intfs = s.intfs) :
    IntfsOk s' i l1 l2 := ⟨e.trans h.split, h.other⟩

theorem IntfsOk.mem_of {s : State} {i : MyIntf} {l1 l2 : List MyIntf} (h : IntfsOk s i l1 l2) {i' : MyIntf}
    (hi : i' ∈ l1 ∨ i' ∈ l2) : i' ∈ s.intfs := by
  rw [h.split]
  simp only [List.mem_append, List.mem_cons]
  exact hi.elim Or.inl fun h => Or.inr (Or.inr h)

/-- `probing_handler` over interfaces none of which has index `idx`: the registry of `idx` and the
    interfaces stay, earlier outputs stay, no new output is a probe query for `n` on `idx`, and a
    watched probe of `idx` is kept -/
theorem foldl_probingOnIntf_other {st nx : Nat} {R : Cargo} (now j idx : Nat) (n : BList) (l : List MyIntf)
    (hne : ∀ i' ∈ l, i'.index ≠ idx) (a : State × List Out) :
    (l.foldl (probingOnIntf now j) a).1.registry idx = a.1.registry idx ∧
    (l.foldl (probingOnIntf now j) a).1.intfs = a.1.intfs ∧
    (∀ o ∈ a.2, o ∈ (l.foldl (probingOnIntf now j) a).2) ∧
    (∀ o ∈ (l.foldl (probingOnIntf now j) a).2, o ∈ a.2 ∨ asksFor idx n o = false) ∧
    (Watch a.1 idx n st nx R → (∀ i' ∈ l, i' ∈ a.1.intfs) → Watch (l.foldl (probingOnIntf now j) a).1 idx n st nx R) :=
  foldl_inv (fun (b : State × List Out) => b.1.registry idx = a.1.registry idx ∧ b.1.intfs = a.1.intfs ∧
      (∀ o ∈ a.2, o ∈ b.2) ∧ (∀ o ∈ b.2, o ∈ a.2 ∨ asksFor idx n o = false) ∧
      (Watch a.1 idx n st nx R → (∀ i' ∈ l, i' ∈ a.1.intfs) → Watch b.1 idx n st nx R))
    (probingOnIntf now j) l a ⟨rfl, rfl, fun _ h => h, fun _ h => Or.inl h, fun h _ => h⟩
    fun b i' hi' hb =>
      ⟨(probingOnIntf_registry_other now j b i' idx (hne i' hi')).trans hb.1,
        (probingOnIntf_frame now j b i').1.trans hb.2.1,
        fun o ho => probingOnIntf_mono now j b i' o (hb.2.2.1 o ho),
        fun o ho => (probingOnIntf_outs now j b i' idx n (fun _ _ e => absurd e (hne i' hi')) o ho).elim (hb.2.2.2.1 o) Or.inr,
        fun hw hmem => probingOnIntf_other_keeps now j b i' idx n st nx R (hne i' hi') (hb.2.2.2.2 hw hmem)
          (by rw [hb.2.1]; exact hmem i' hi')⟩

/-- `probing_handler` and the watched probe `p` of `n` on interface `i`: as `probingOnIntf_self`, the other
    interfaces neither touching the probe nor asking for `n` on `i` -/
theorem probingHandler_probe (s : State) (now j : Nat) (i : MyIntf) (l1 l2 : List MyIntf) (hi : IntfsOk s i l1 l2)
    (n : BList) (p : Probe) (hl : alookup n (s.registry i.index).probing = some p)
    {st nx : Nat} {R : Cargo} (hw : Watch s i.index n st nx R) :
    (p.action now ≠ .expire →
      Watch (probingHandler s now j).1 i.index n (if p.action now = .send then p.start + (now - p.next) else p.start)
        (if p.action now = .send then now + 250 else p.next) ⟨p.records, p.waiting, alookup n (s.registry i.index).active⟩) ∧
    (p.action now ≠ .send → ∀ o ∈ (probingHandler s now j).2, asksFor i.index n o = false) ∧
    (p.action now = .send → ∀ v4, i.hasFamily v4 = true → ∃ pkt, Out.send i.index v4 none pkt ∈ (probingHandler s now j).2 ∧
      pkt.flags = 0 ∧ (n, TYPE_ANY) ∈ pkt.questions ∧ ∀ a ∈ p.records, a ∈ pkt.authorities) ∧
    (p.action now = .expire →
      ∀ a ∈ p.records, a.getName = n → ((probingHandler s now j).1.registry i.index).isActive a = true) := by
  rw [probingHandler, hi.split, List.foldl_append, List.foldl_cons]
  obtain ⟨hr1, hintfs1, _, ho1, hw1⟩ := foldl_probingOnIntf_other now j i.index n l1 (fun i' h => hi.other i' (by simp [h])) (s, [])
  have hw1 := hw1 hw fun i' h => hi.mem_of (Or.inl h)
  obtain ⟨hw2, hout2, hsend2, hend2⟩ := probingOnIntf_self now j (l1.foldl (probingOnIntf now j) (s, [])) i n p
    (by rw [hr1]; exact hl) hw1.pn hw1.noRen
  rw [hr1] at hw2
  obtain ⟨hr3, _, hmono3, hout3, hw3⟩ := foldl_probingOnIntf_other now j i.index n l2 (fun i' h => hi.other i' (by simp [h]))
    (probingOnIntf now j (l1.foldl (probingOnIntf now j) (s, [])) i)
  refine ⟨fun hact => hw3 (hw2 hact hw1.settled (by rw [hintfs1, hi.split]; simp)) fun i' h => by
      rw [(probingOnIntf_frame now j _ i).1, hintfs1]; exact hi.mem_of (Or.inr h), fun hns o ho => ?_, fun hsend v4 hfam => ?_,
    fun hact a ha hname => by rw [hr3]; exact hend2 hact a ha hname⟩
  · exact (hout3 o ho).elim (fun h => (hout2 hns o h).elim (fun h' => (ho1 o h').resolve_left (by simp)) id) id
  · obtain ⟨pkt, hp, rest⟩ := hsend2 hsend v4 hfam
    exact ⟨pkt, hmono3 _ hp, rest⟩

/-! ### re-runs keep the watched probe -/

theorem execRegisterResend_keeps (s : State) (now j : Nat) (fullname : BList) (ifIdx : Nat) (idx : Nat) (n : BList)
    (st nx : Nat) (R : Cargo) (h : Watch s idx n st nx R) :
    Watch (execRegisterResend s now j fullname ifIdx).1 idx n st nx R ∧
    (∀ o ∈ (execRegisterResend s now j fullname ifIdx).2, asksFor idx n o = false) := by
  rcases execRegisterResend_cases s now j fullname ifIdx with e | ⟨svc, r0, i, hsvc, hr0, hi, e⟩
  · rw [e]; exact ⟨h, fun _ h => by simp at h⟩
  obtain ⟨_, hidx⟩ := find_index_spec hi
  subst hidx
  have hw := h.announce_pair svc i now j hsvc (List.mem_of_find?_eq_some hi)
  rw [registry_of_lookup hr0] at hw
  rcases e with e | ⟨_, e⟩ <;> rw [e]
  · exact ⟨hw, fun _ h => by simp at h⟩
  · refine ⟨hw.transfer rfl rfl (services_aset_status i.index .announced hsvc), fun o hom => ?_⟩
    exact (List.mem_append.mp hom).elim (sendsOf_not_asks svc i _ _ idx n o) (notify_not_asks _ _ idx n o)

theorem execRerun_keeps (now j : Nat) (acc : State × List Out) (r : ReRun) (idx : Nat) (n : BList) (st nx : Nat) (R : Cargo)
    (h : Watch acc.1 idx n st nx R) (ho : ∀ o ∈ acc.2, asksFor idx n o = false)
    (hr : ∀ t p k v, r = .unregisterResend t p k v → p.flags ≠ 0) :
    Watch (execRerun now j acc r).1 idx n st nx R ∧ (∀ o ∈ (execRerun now j acc r).2, asksFor idx n o = false) := by
  cases r with
  | registerResend t fullname ifIdx =>
    rw [execRerun_registerResend]
    obtain ⟨hw, hout⟩ := execRegisterResend_keeps acc.1 now j fullname ifIdx idx n st nx R h
    exact ⟨hw, fun o hom => (List.mem_append.mp hom).elim (ho o) (hout o)⟩
  | unregisterResend t pkt ifIdx v4 =>
    refine ⟨h, fun o hom => ?_⟩
    rcases List.mem_append.mp hom with hom | hom
    · exact ho o hom
    · unfold execUnregisterResend at hom
      split at hom
      · split at hom
        · simp only [List.mem_cons, List.not_mem_nil, or_false] at hom
          subst hom
          have hf : (pkt.flags == 0) = false := by simpa using hr t pkt ifIdx v4 rfl
          simp [asksFor, hf]
        · simp at hom
      · simp at hom

theorem runReruns_keeps (s : State) (now j : Nat) (idx : Nat) (n : BList) (st nx : Nat) (R : Cargo)
    (h : Watch s idx n st nx R) (hr : RerunsOk s) :
    Watch (runReruns s now j).1 idx n st nx R ∧ (∀ o ∈ (runReruns s now j).2, asksFor idx n o = false) ∧
    RerunsOk (runReruns s now j).1 := by
  have hk : Watch (runReruns s now j).1 idx n st nx R ∧ ∀ o ∈ (runReruns s now j).2, asksFor idx n o = false :=
    foldl_inv (fun (a : State × List Out) => Watch a.1 idx n st nx R ∧ ∀ o ∈ a.2, asksFor idx n o = false)
      (execRerun now j) (s.reruns.filter (fun r => decide (now ≥ r.next)))
      ({ s with reruns := s.reruns.filter (fun r => !decide (now ≥ r.next)) }, [])
      ⟨h.congr rfl rfl rfl, fun _ h => by simp at h⟩
      fun a r hrm ha => execRerun_keeps now j a r idx n st nx R ha.1 ha.2
        fun t p k v e => hr t p k v (e ▸ (List.mem_filter.mp hrm).1)
  refine ⟨hk.1, hk.2, fun t p k v hm => ?_⟩
  rw [(runReruns_frame s now j).2.1] at hm
  exact hr t p k v (List.mem_filter.mp hm).1

/-! ### the watched probe across idle iterations -/

/-- the daemon runs, interface `i` is there once, the probe of `n` on `i` has start `st`,
    next send `nx` and holds the records `R`, and no queued goodbye repeat is a query -/
structure Good (s : State) (i : MyIntf) (l1 l2 : List MyIntf) (n : BList) (st nx : Nat) (R : Cargo) : Prop where
  running : s.stopped = false
  intfs : IntfsOk s i l1 l2
  watch : Watch s i.index n st nx R
  reruns : RerunsOk s

theorem Good.timers {s : State} {i : MyIntf} {l1 l2 : List MyIntf} {n : BList} {st nx : Nat} {R : Cargo}
    (h : Good s i l1 l2 n st nx R) (tm : List Nat) : Good { s with timers := tm } i l1 l2 n st nx R :=
  ⟨h.running, h.intfs.congr rfl, h.watch.congr rfl rfl rfl, h.reruns⟩

theorem Watch.weaken {s : State} {idx : Nat} {n : BList} {st nx : Nat} {R R' : Cargo} (h : Watch s idx n st nx R')
    (hsub : ∀ a ∈ R.recs, a ∈ R'.recs) (hwsub : ∀ w ∈ R.waits, w ∈ R'.waits) (hact : R.act = R'.act) : Watch s idx n st nx R := by
  obtain ⟨p, hp, h1, h2, h3, h4⟩ := h.probe
  exact ⟨⟨p, hp, h1, h2, fun a ha => h3 a (hsub a ha), fun w hw => h4 w (hwsub w hw)⟩, h.pn, h.noRen, h.act.trans hact.symm,
    h.settled⟩

/-- did this iteration send a probe query for `n` on the interface? -/
def asked (idx : Nat) (n : BList) (outs : List Out) : Bool := outs.any (asksFor idx n)

theorem action_live {p : Probe} {st nx now : Nat} (hst : p.start = st) (hnx : p.next = nx)
    (hlive : now < nx ∨ now < st + 750 ∨ nx < st + 750) : p.action now = if now ≥ nx then .send else .idle := by
  rw [Probe.action_eq, hst, hnx]
  split
  · rw [if_neg (by omega)]
  · rfl

/-- the tail of ONE iteration at `now` (after the commands), while the probe does not end - it is
    not due, or not 750 ms old, or has not sent its three queries (`nx < st + 750`): the probe
    query for `n` leaves on `i` - over every family of the interface, with `ANY n` among the
    questions and all of `R` among the authorities - exactly if `now ≥ nx`; then `nx` becomes
    `now + 250` and the start moves by the lateness `now - nx`; otherwise nothing about the probe changes. -/
theorem loopTail_step (s : State) (i : MyIntf) (l1 l2 : List MyIntf) (n : BList) (st nx : Nat) (R : Cargo) (now j : Nat)
    (h : Good s i l1 l2 n st nx R) (hlive : now < nx ∨ now < st + 750 ∨ nx < st + 750) :
    Good (loopTail s now j).1 i l1 l2 n (if now ≥ nx then st + (now - nx) else st) (if now ≥ nx then now + 250 else nx) R ∧
    (now < nx → asked i.index n (loopTail s now j).2 = false) ∧
    (now ≥ nx → ∀ v4, i.hasFamily v4 = true → ∃ pkt, Out.send i.index v4 none pkt ∈ (loopTail s now j).2 ∧
      pkt.flags = 0 ∧ (n, TYPE_ANY) ∈ pkt.questions ∧ ∀ a ∈ R.recs, a ∈ pkt.authorities) := by
  unfold loopTail
  obtain ⟨hw4, ho4, hr4⟩ := runReruns_keeps s now j i.index n st nx R h.watch h.reruns
  obtain ⟨_, _, hi4, hs4⟩ := runReruns_frame s now j
  obtain ⟨p, hp, hst, hnx, hrec, hwait⟩ := hw4.probe
  have hintfs4 : IntfsOk (runReruns s now j).1 i l1 l2 := h.intfs.congr hi4
  have ha := action_live hst hnx hlive
  have hsendiff : p.action now = .send ↔ now ≥ nx := by
    rw [ha]
    split <;> simp [*]
  obtain ⟨hw5, hidle5, hsend5, _⟩ := probingHandler_probe _ now j i l1 l2 hintfs4 n p hp hw4
  have hw5 := hw5 (by rw [ha]; split <;> simp)
  simp only [hsendiff, hst, hnx] at hw5
  obtain ⟨hf5i, hf5s⟩ := probingHandler_frame (runReruns s now j).1 now j
  obtain ⟨e1, e2, e3, e4⟩ := runIpCheck_registries
    (probingHandler (runReruns s now j).1 now j).1 now
  refine ⟨⟨?_, ?_, ?_, ?_⟩, ?_, ?_⟩
  · rw [e3, hf5s, hs4]; exact h.running
  · exact hintfs4.congr (e2.trans hf5i)
  · exact (hw5.congr e1 (runIpCheck_services _ now) e2).weaken hrec hwait hw4.act.symm
  · intro t pk k v hm
    rw [e4] at hm
    exact probingHandler_rerunsOk _ now j hr4 t pk k v hm
  · intro hlt
    have hidle : p.action now ≠ .send := by rw [ha, if_neg (by omega)]; simp
    simp only [asked, List.any_append, Bool.or_eq_false_iff, List.any_eq_false]
    exact ⟨fun o ho => by simp [ho4 o ho], fun o ho => by simp [hidle5 hidle o ho]⟩
  · intro hge v4 hfam
    obtain ⟨pkt, hm, hfl, hq, hauth⟩ := hsend5 (hsendiff.mpr hge) v4 hfam
    exact ⟨pkt, List.mem_append.mpr (Or.inr hm), hfl, hq, fun a ha => hauth a (hrec a ha)⟩

theorem iter_idle_step (s : State) (i : MyIntf) (l1 l2 : List MyIntf) (n : BList) (st nx : Nat) (R : Cargo) (now j : Nat)
    (h : Good s i l1 l2 n st nx R) (hlive : now < nx ∨ now < st + 750 ∨ nx < st + 750) :
    Good (iter s (idle now j)).1 i l1 l2 n (if now ≥ nx then st + (now - nx) else st) (if now ≥ nx then now + 250 else nx) R ∧
    (now < nx → asked i.index n (iter s (idle now j)).2 = false) ∧
    (now ≥ nx → ∀ v4, i.hasFamily v4 = true → ∃ pkt, Out.send i.index v4 none pkt ∈ (iter s (idle now j)).2 ∧
      pkt.flags = 0 ∧ (n, TYPE_ANY) ∈ pkt.questions ∧ ∀ a ∈ R.recs, a ∈ pkt.authorities) := by
  rw [iter_idle s now j h.running]
  exact loopTail_step _ i l1 l2 n st nx R now j (h.timers _) hlive

/-- the idle iteration in which the probe ends (`now ≥ nx`, the three queries sent:
    `nx ≥ st + 750`): no probe query for `n`, and every record of `R` filed under `n` is active
    afterwards -/
theorem iter_idle_end (s : State) (i : MyIntf) (l1 l2 : List MyIntf) (n : BList) (st nx : Nat) (R : Cargo) (now j : Nat)
    (h : Good s i l1 l2 n st nx R) (h1 : now ≥ nx) (h3 : nx ≥ st + 750) :
    asked i.index n (iter s (idle now j)).2 = false ∧
    ∀ a ∈ R.recs, a.getName = n → ((iter s (idle now j)).1.registry i.index).isActive a = true := by
  rw [iter_idle s now j h.running]
  unfold loopTail
  have h := h.timers (s.timers.filter (· > now))
  obtain ⟨hw4, ho4, _⟩ := runReruns_keeps _ now j i.index n st nx R h.watch h.reruns
  have hi4 := (runReruns_frame { s with timers := s.timers.filter (· > now) } now j).2.2.1
  obtain ⟨p, hp, hst, hnx, hrec, _⟩ := hw4.probe
  have hact : p.action now = .expire := by
    rw [Probe.action_eq, hst, hnx]
    simp [h1, Nat.le_trans h3 h1, h3]
  obtain ⟨_, hout5, _, hact5⟩ := probingHandler_probe _ now j i l1 l2 (h.intfs.congr hi4) n p hp hw4
  constructor
  · simp only [asked, List.any_append, Bool.or_eq_false_iff, List.any_eq_false]
    exact ⟨fun o ho => by simp [ho4 o ho], fun o ho => by simp [hout5 (by simp [hact]) o ho]⟩
  · intro a ha hname
    rw [registry_congr (runIpCheck_registries _ now).1]
    exact hact5 hact a (hrec a ha) hname

/-- a run of idle iterations at the given times: final state and (time, outputs) per iteration -/
def idleRun (j : Nat) : State → List Nat → State × List (Nat × List Out)
  | s, [] => (s, [])
  | s, t :: ts => ((idleRun j (iter s (idle t j)).1 ts).1, (t, (iter s (idle t j)).2) :: (idleRun j (iter s (idle t j)).1 ts).2)

theorem idleRun_append (j : Nat) (s : State) (a b : List Nat) :
    idleRun j s (a ++ b) = ((idleRun j (idleRun j s a).1 b).1, (idleRun j s a).2 ++ (idleRun j (idleRun j s a).1 b).2) := by
  induction a generalizing s with
  | nil => simp [idleRun]
  | cons t a ih => simp [idleRun, ih]

/-- the times of the iterations that sent a probe query for `n` on interface index `idx` -/
def askTimes (idx : Nat) (n : BList) (run : List (Nat × List Out)) : List Nat :=
  (run.filter fun x => asked idx n x.2).map (·.1)

theorem askTimes_append (idx : Nat) (n : BList) (a b : List (Nat × List Out)) :
    askTimes idx n (a ++ b) = askTimes idx n a ++ askTimes idx n b := by
  simp [askTimes]

theorem idleRun_skip (j : Nat) (i : MyIntf) (l1 l2 : List MyIntf) (n : BList) (st nx : Nat) (R : Cargo) :
    ∀ (pre : List Nat) (s : State), Good s i l1 l2 n st nx R → (∀ t ∈ pre, t < nx) →
      Good (idleRun j s pre).1 i l1 l2 n st nx R ∧ askTimes i.index n (idleRun j s pre).2 = [] := by
  intro pre
  induction pre with
  | nil => intro s h _; exact ⟨h, rfl⟩
  | cons t pre ih =>
    intro s h hpre
    have ht : t < nx := hpre t (by simp)
    obtain ⟨hg, hno, _⟩ := iter_idle_step s i l1 l2 n st nx R t j h (Or.inl ht)
    rw [if_neg (by omega), if_neg (by omega)] at hg
    obtain ⟨hg', hask'⟩ := ih _ hg (fun x hx => hpre x (List.mem_cons_of_mem _ hx))
    refine ⟨hg', ?_⟩
    simp only [idleRun, askTimes, List.filter_cons, hno ht]
    exact hask'

/-- any iterations before the due time, then the iteration at the due time `nx` (before the probe's
    end): one probe query, and `nx` moves 250 ms ahead -/
theorem idleRun_phase (j : Nat) (i : MyIntf) (l1 l2 : List MyIntf) (n : BList) (st nx : Nat) (R : Cargo) (s : State)
    (pre : List Nat) (h : Good s i l1 l2 n st nx R) (hlive : nx < st + 750) (hfam : ∃ v4, i.hasFamily v4 = true)
    (hpre : ∀ t ∈ pre, t < nx) :
    Good (idleRun j s (pre ++ [nx])).1 i l1 l2 n st (nx + 250) R ∧ askTimes i.index n (idleRun j s (pre ++ [nx])).2 = [nx] := by
  obtain ⟨hg1, ha1⟩ := idleRun_skip j i l1 l2 n st nx R pre s h hpre
  obtain ⟨hg, _, hsend⟩ := iter_idle_step _ i l1 l2 n st nx R nx j hg1 (Or.inr (Or.inr hlive))
  simp only [ge_iff_le, Nat.le_refl, ↓reduceIte, Nat.sub_self, Nat.add_zero] at hg
  obtain ⟨v4, hv⟩ := hfam
  obtain ⟨pkt, hm, hfl, hq, _⟩ := hsend (Nat.le_refl _) v4 hv
  have hasked : asked i.index n (iter (idleRun j s pre).1 (idle nx j)).2 = true := by
    simp only [asked, List.any_eq_true]
    exact ⟨_, hm, by simp [asksFor, hfl, hq]⟩
  rw [idleRun_append]
  exact ⟨hg, by rw [askTimes_append, ha1]; simp [idleRun, askTimes, hasked]⟩

/-- any iterations before the due time, then the iteration at the due time when the probe is
    750 ms old: no probe query, the records are active -/
theorem idleRun_final (j : Nat) (i : MyIntf) (l1 l2 : List MyIntf) (n : BList) (st nx : Nat) (R : Cargo) (s : State)
    (pre : List Nat) (h : Good s i l1 l2 n st nx R) (hend : nx ≥ st + 750) (hpre : ∀ t ∈ pre, t < nx) :
    askTimes i.index n (idleRun j s (pre ++ [nx])).2 = [] ∧
    ∀ a ∈ R.recs, a.getName = n → ((idleRun j s (pre ++ [nx])).1.registry i.index).isActive a = true := by
  obtain ⟨hg1, ha1⟩ := idleRun_skip j i l1 l2 n st nx R pre s h hpre
  obtain ⟨hno, hact⟩ := iter_idle_end _ i l1 l2 n st nx R nx j hg1 (Nat.le_refl _) hend
  rw [idleRun_append]
  constructor
  · rw [askTimes_append, ha1]
    simp [idleRun, askTimes, hno]
  · simpa [idleRun] using hact

end Mdns.Responder
