import Mdns.Model.Basic
/-
  `Res.Spec`: one contract for a call that may return, fail or panic, with the lemmas to step
  through the `match` (`Spec.elim`) or `if` (`Spec.ite`) by which the model writes the `?` of the
  Rust source.
-/
namespace Mdns.Res

/-- `r` is a value satisfying `P`, or `err` and then `E` holds, or `panic` and then `Pn` holds -/
def Spec {α : Type} (r : Res α) (P : α → Prop) (E Pn : Prop) : Prop :=
  match r with
  | .ok a => P a
  | .err => E
  | .panic => Pn

variable {α : Type} {r : Res α} {P Q : α → Prop} {E Pn : Prop}

/-- the motive is found by abstracting the call from the goal -/
@[elab_as_elim] theorem Spec.elimEq {motive : Res α → Prop} (h : r.Spec P E Pn)
    (ok : ∀ a, r = .ok a → P a → motive (.ok a)) (err : E → motive .err) (panic : Pn → motive .panic) : motive r := by
  cases r
  · exact ok _ rfl h
  · exact err h
  · exact panic h

@[elab_as_elim] theorem Spec.elim {motive : Res α → Prop} (h : r.Spec P E Pn)
    (ok : ∀ a, P a → motive (.ok a)) (err : E → motive .err) (panic : Pn → motive .panic) : motive r :=
  h.elimEq (fun a _ => ok a) err panic

theorem Spec.ite {c : Prop} [Decidable c] {a b : Res α} (ha : c → a.Spec P E Pn) (hb : ¬c → b.Spec P E Pn) :
    (if c then a else b).Spec P E Pn := by
  by_cases h : c
  · rw [if_pos h]; exact ha h
  · rw [if_neg h]; exact hb h

theorem Spec.of_ok {a : α} (h : r.Spec P E Pn) (e : r = .ok a) : P a := by
  subst e; exact h

theorem Spec.ne_panic (h : r.Spec P E Pn) (hPn : ¬ Pn) : r ≠ .panic := by
  intro e; subst e; exact hPn h

theorem Spec.imp {E' Pn' : Prop} (h : r.Spec P E Pn) (hP : ∀ a, P a → Q a) (hE : E → E') (hPn : Pn → Pn') :
    r.Spec Q E' Pn' := by
  cases r
  · exact hP _ h
  · exact hE h
  · exact hPn h

theorem Spec.mono (h : r.Spec P E Pn) (hP : ∀ a, P a → Q a) : r.Spec Q E Pn := h.imp hP id id

end Mdns.Res
