import Mdns.Model.Encode
import Mdns.Lemmas.RefParse
import Mdns.Spec.Expect
import Mdns.Lemmas.ResSpec
/-
  Lemmas for C02 (encoder).  One contract per writer (`*_run`): never `err`, a panic only outside the
  stated domain, the growth of the packet; and one for what it wrote (`Wrote`): the reference reader
  reads it back.  `writeLabels_spec`, `writeName_spec` and `writeRecord_spec` are the read-back statements of the
  three writers that touch the compression table, in the form Props/C02 quotes; their `*_wrote` repackage them.
-/
namespace Mdns.Enc
open Mdns

theorem parseEscapedGo_no_empty (s cur : BList) : ∀ l ∈ parseEscapedGo s cur, l ≠ [] := by
  fun_induction parseEscapedGo s cur <;> simp_all

theorem parseEscapedGo_escape (l X cur : BList) :
    parseEscapedGo (escape l ++ X) cur = parseEscapedGo X (cur ++ l) := by
  induction l generalizing cur with
  | nil => simp [escape]
  | cons c l ih =>
    have hstep : escape (c :: l) ++ X = escapeByte c ++ (escape l ++ X) := by
      simp [escape]
    rw [hstep]
    by_cases h1 : c = 0x5C
    · subst h1
      simp only [escapeByte]
      simp [parseEscapedGo, ih]
    · by_cases h2 : c = 0x2E
      · subst h2
        simp [escapeByte, parseEscapedGo, ih]
      · simp only [escapeByte, h1, h2, if_false]
        cases hX : escape l ++ X with
        | nil =>
          have := ih (cur ++ [c])
          rw [hX] at this
          simp [parseEscapedGo, h2]
          rw [show cur ++ c :: l = cur ++ [c] ++ l by simp, ← this]
          simp [parseEscapedGo]
        | cons n r =>
          simp only [List.cons_append, List.nil_append]
          rw [parseEscapedGo]
          simp only [h1, h2, if_false]
          rw [← hX, ih]
          simp

theorem parseEscapedGo_dot (rest cur : BList) (h : cur ≠ []) :
    parseEscapedGo (0x2E :: rest) cur = cur :: parseEscapedGo rest [] := by
  cases rest with
  | nil => simp [parseEscapedGo, h]
  | cons n r => rw [parseEscapedGo]; simp [h]

theorem getLast?_append_ne (a rest : BList) (h : rest ≠ []) : (a ++ rest).getLast? = rest.getLast? := by
  cases hr : rest.getLast? with
  | none => simp [List.getLast?_eq_none_iff] at hr; exact absurd hr h
  | some x => simp [List.getLast?_append, hr]

theorem stripDot_append (a rest : BList) (h : rest ≠ []) : stripDot (a ++ rest) = a ++ stripDot rest := by
  unfold stripDot
  rw [getLast?_append_ne _ _ h]
  split
  · rw [List.dropLast_append_of_ne_nil h]
  · rfl

@[simp] theorem writeByte_data (p : OutPacket) (v : UInt8) : (p.writeByte v).data = p.data.push v := by
  cases p; rfl
@[simp] theorem writeByte_names (p : OutPacket) (v : UInt8) : (p.writeByte v).names = p.names := by
  cases p; rfl
@[simp] theorem writeByte_finished (p : OutPacket) (v : UInt8) : (p.writeByte v).finished = p.finished := by
  cases p; rfl
@[simp] theorem writeBytes_data (p : OutPacket) (s : BList) : (p.writeBytes s).data = p.data ++ s.toArray := by
  cases p; rfl
@[simp] theorem writeBytes_names (p : OutPacket) (s : BList) : (p.writeBytes s).names = p.names := by
  cases p; rfl
@[simp] theorem writeBytes_finished (p : OutPacket) (s : BList) : (p.writeBytes s).finished = p.finished := by
  cases p; rfl
@[simp] theorem writeShort_data (p : OutPacket) (v : Nat) : (p.writeShort v).data = p.data ++ (be16 v).toArray := by
  simp [OutPacket.writeShort]
@[simp] theorem writeShort_names (p : OutPacket) (v : Nat) : (p.writeShort v).names = p.names := by
  simp [OutPacket.writeShort]
@[simp] theorem writeU32_data (p : OutPacket) (v : Nat) : (p.writeU32 v).data = p.data ++ (be32 v).toArray := by
  simp [OutPacket.writeU32]
@[simp] theorem writeU32_names (p : OutPacket) (v : Nat) : (p.writeU32 v).names = p.names := by
  simp [OutPacket.writeU32]

@[simp] theorem be16_length (v : Nat) : (be16 v).length = 2 := rfl
@[simp] theorem be32_length (v : Nat) : (be32 v).length = 4 := rfl

@[simp] theorem writeShort_finished (p : OutPacket) (v : Nat) : (p.writeShort v).finished = p.finished := by
  simp [OutPacket.writeShort]
@[simp] theorem writeU32_finished (p : OutPacket) (v : Nat) : (p.writeU32 v).finished = p.finished := by
  simp [OutPacket.writeU32]


/-- the two bytes at `i` replaced by the big-endian `v`: what `insert_short` does to the data -/
def patch (d : Data) (i v : Nat) : Data :=
  (d.setIfInBounds i (UInt8.ofNat (v / 256))).setIfInBounds (i + 1) (UInt8.ofNat v)

theorem insertShortData_eq (d : Data) (i v : Nat) :
    insertShortData d i v = if i + 2 ≤ d.size then .ok (patch d i v) else .panic := rfl

@[simp] theorem patch_size (d : Data) (i v : Nat) : (patch d i v).size = d.size := by simp [patch]

theorem u16_patch (d : Data) (i v : Nat) (h : i + 2 ≤ d.size) : Ref.u16 (patch d i v) i = some (v % 65536) := by
  have h1 : i < d.size := by omega
  have h2 : i + 1 < d.size := by omega
  simp [Ref.u16, patch, h1, h2]
  omega

theorem u16_patch_other (d : Data) (i v j : Nat) (hj : j + 2 ≤ i ∨ i + 2 ≤ j) :
    Ref.u16 (patch d i v) j = Ref.u16 d j := by
  have a1 : ¬ i = j := by omega
  have a2 : ¬ i + 1 = j := by omega
  have a3 : ¬ i = j + 1 := by omega
  simp [Ref.u16, patch, a1, a2, a3]

theorem patch_append (H B : Data) (i v : Nat) (hi : i + 2 ≤ H.size) : patch (H ++ B) i v = patch H i v ++ B := by
  apply Array.toList_inj.mp
  have h1 : i < H.toList.length := by simp; omega
  have h2 : i + 1 < (H.toList.set i (UInt8.ofNat (v / 256))).length := by simp; omega
  simp only [patch, Array.toList_setIfInBounds, Array.toList_append]
  rw [List.set_append_left _ _ h1, List.set_append_left _ _ h2]

theorem patch_placeholder (A : Data) (R : BList) (v : Nat) :
    patch (A ++ (be16 0 ++ R).toArray) A.size v = A ++ (be16 v ++ R).toArray := by
  apply Array.toList_inj.mp
  simp [patch, be16]

theorem insertShort_run (p : OutPacket) (i v : Nat) :
    (p.insertShort i v).Spec (fun p' => p'.data = patch p.data i v ∧ p'.names = p.names ∧ p'.finished = p.finished ∧
      i + 2 ≤ p.data.size) False (¬ i + 2 ≤ p.data.size) := by
  obtain ⟨d, f, ns⟩ := p
  simp only [OutPacket.insertShort, insertShortData_eq]
  by_cases h : i + 2 ≤ d.size
  · rw [if_pos h]; exact ⟨rfl, rfl, rfl, h⟩
  · rw [if_neg h]; exact h

theorem writeUtf8_run (p : OutPacket) (s : BList) :
    (p.writeUtf8 s).Spec (fun p' => p'.data = p.data.push (UInt8.ofNat s.length) ++ s.toArray ∧ p'.names = p.names ∧
      p'.finished = p.finished ∧ s.length < 64) False (¬ s.length < 64) :=
  .ite (fun h => ⟨by simp, by simp, by simp, h⟩) id

theorem writeLabels_run (ls : List BList) : ∀ p : OutPacket,
    (writeLabels p ls).Spec (fun p' => p.data.size < p'.data.size ∧ p'.finished = p.finished) False
      (¬ ∀ l ∈ ls, l.length < 64) := by
  induction ls with
  | nil => exact fun p => ⟨by simp, by simp⟩
  | cons l rest ih =>
    intro p
    rw [writeLabels]
    split
    · exact ⟨by simp, by simp⟩
    · refine (writeUtf8_run _ l).elim (fun p1 h1 => ?_) False.elim fun hc hall => hc (hall l List.mem_cons_self)
      refine (ih p1).imp (fun p' h' => ?_) id fun hc hall => hc fun x hx => hall x (List.mem_cons_of_mem _ hx)
      have := congrArg Array.size h1.1
      simp only [Array.size_append, Array.size_push, List.size_toArray] at this
      exact ⟨by omega, h'.2.trans h1.2.2.1⟩

/-- every label of the textual name fits the length byte (the `assert!` of `write_utf8` holds) -/
def NameOK (name : BList) : Prop := ∀ l ∈ labelsOf name, l.length < 64

def RDataOK : Wire.RData → Prop
  | .ptr n => NameOK n
  | .srv _ _ _ h => NameOK h
  | _ => True

def RecOK (r : RecIn) : Prop := NameOK r.name ∧ RDataOK r.rdata

theorem writeName_run (p : OutPacket) (n : BList) :
    (p.writeName n).Spec (fun p' => p.data.size < p'.data.size ∧ p'.finished = p.finished) False (¬ NameOK n) :=
  writeLabels_run _ p

theorem writeRData_run (p : OutPacket) (rd : Wire.RData) :
    (p.writeRData rd).Spec (fun p' => p.data.size ≤ p'.data.size ∧ p'.finished = p.finished) False (¬ RDataOK rd) := by
  cases rd
  case ptr n => exact (writeName_run p n).mono fun p' h => ⟨by omega, h.2⟩
  case srv a b c n =>
    exact (writeName_run _ n).mono fun p' h => by
      simp only [writeShort_data, Array.size_append, writeShort_finished] at h
      exact ⟨by omega, h.2⟩
  all_goals exact ⟨by simp, by simp⟩

theorem writeRecordBody_run (p : OutPacket) (r : RecIn) (ttl : Nat) :
    (p.writeRecordBody r ttl).Spec (fun p' => p.data.size + 10 ≤ p'.data.size ∧ p'.finished = p.finished) False
      (¬ RDataOK r.rdata) := by
  simp only [OutPacket.writeRecordBody]
  refine (writeRData_run _ r.rdata).elim (fun p6 h6 => ?_) False.elim id
  simp only [writeShort_data, writeU32_data, Array.size_append, List.size_toArray, be16_length, be32_length,
    writeShort_finished, writeU32_finished] at h6 ⊢
  refine (insertShort_run p6 _ _).imp (fun p' h => ?_) id fun hc => absurd (by omega) hc
  exact ⟨by rw [h.1, patch_size]; omega, h.2.2.1.trans h6.2⟩

@[simp] theorem rollback_data (p : OutPacket) (n : Nat) : (p.rollback n).data = p.data.extract 0 n := by
  cases p; rfl
@[simp] theorem rollback_names (p : OutPacket) (n : Nat) :
    (p.rollback n).names = p.names.filter (fun e => e.2 < n) := by
  cases p; rfl

/-- the TTL an RFC 1035 reader must find -/
def ttlOf (r : RecIn) (now : Nat) : Nat := if now = 0 then r.ttl else (expires r - now) / 1000

theorem ttl_run (r : RecIn) (now : Nat) :
    (if now = 0 then Res.ok r.ttl else remainingTtl r now).Spec
      (fun ttl => ttlOf r now < 4294967296 → ttl = ttlOf r now) False (¬ (now = 0 ∨ now ≤ expires r)) :=
  .ite (fun h0 _ => by rw [ttlOf, if_pos h0]) fun h0 => .ite (fun hlt hc => by omega) fun _ hw => by
    rw [ttlOf, if_neg h0] at hw ⊢
    exact Nat.mod_eq_of_lt hw

theorem writeRecord_run (p : OutPacket) (r : RecIn) (now : Nat) :
    (p.writeRecord r now).Spec (fun x =>
      (x.2 = true → p.data.size + 11 ≤ x.1.data.size ∧ x.1.data.size ≤ MAX_MSG_ABSOLUTE) ∧
      (x.2 = false → x.1.data.size = p.data.size)) False (¬ (RecOK r ∧ (now = 0 ∨ now ≤ expires r))) := by
  unfold OutPacket.writeRecord
  refine (writeName_run p r.name).elim (fun p1 h1 => ?_) False.elim fun hc hok => hc hok.1.1
  dsimp only
  refine (ttl_run r now).elim (fun ttl _ => ?_) False.elim fun hc hok => hc hok.2
  dsimp only
  refine (writeRecordBody_run p1 r ttl).elim (fun p7 h7 => ?_) False.elim fun hc hok => hc hok.1.2
  refine .ite (fun _ => ?_) fun _ => ?_
  · exact ⟨fun hc => (nomatch hc), fun _ => by simp; omega⟩
  · exact ⟨fun _ => by dsimp only; omega, fun hc => (nomatch hc)⟩

structure HeaderIs (d : Data) (id flags qc anc auc adc : Nat) : Prop where
  id : Ref.u16 d 0 = some (id % 65536)
  flags : Ref.u16 d 2 = some (flags % 65536)
  qc : Ref.u16 d 4 = some (qc % 65536)
  anc : Ref.u16 d 6 = some (anc % 65536)
  auc : Ref.u16 d 8 = some (auc % 65536)
  adc : Ref.u16 d 10 = some (adc % 65536)

theorem writeHeader_run (p : OutPacket) (id flags qc anc auc adc : Nat) :
    (p.writeHeader id flags qc anc auc adc).Spec (fun p' =>
      p'.data.size = p.data.size ∧ HeaderIs p'.data id flags qc anc auc adc ∧
      ∀ H B : Data, p.data = H ++ B → H.size = 12 → ∃ H' : Data, H'.size = 12 ∧ p'.data = H' ++ B)
      False (¬ 12 ≤ p.data.size) := by
  unfold OutPacket.writeHeader
  refine (insertShort_run p 0 id).elim (fun p0 h0 => ?_) False.elim fun hc hs => hc (by omega)
  dsimp only
  refine (insertShort_run p0 2 flags).elim (fun p1 h1 => ?_) False.elim fun hc hs =>
    hc (by rw [h0.1, patch_size]; omega)
  dsimp only
  refine (insertShort_run p1 4 qc).elim (fun p2 h2 => ?_) False.elim fun hc hs =>
    hc (by rw [h1.1, h0.1, patch_size, patch_size]; omega)
  dsimp only
  refine (insertShort_run p2 6 anc).elim (fun p3 h3 => ?_) False.elim fun hc hs =>
    hc (by rw [h2.1, h1.1, h0.1, patch_size, patch_size, patch_size]; omega)
  dsimp only
  refine (insertShort_run p3 8 auc).elim (fun p4 h4 => ?_) False.elim fun hc hs =>
    hc (by rw [h3.1, h2.1, h1.1, h0.1, patch_size, patch_size, patch_size, patch_size]; omega)
  dsimp only
  refine (insertShort_run p4 10 adc).elim (fun p5 h5 => ?_) False.elim fun hc hs =>
    hc (by rw [h4.1, h3.1, h2.1, h1.1, h0.1, patch_size, patch_size, patch_size, patch_size, patch_size]; omega)
  dsimp only
  have hs : 12 ≤ p.data.size := by
    have := h5.2.2.2
    rwa [h4.1, h3.1, h2.1, h1.1, h0.1, patch_size, patch_size, patch_size, patch_size, patch_size] at this
  rw [h5.1, h4.1, h3.1, h2.1, h1.1, h0.1]
  have hfit : ∀ i, i + 2 ≤ 12 → i + 2 ≤ p.data.size := fun i hi => Nat.le_trans hi hs
  refine ⟨by simp, ⟨?_, ?_, ?_, ?_, ?_, ?_⟩, fun H B hp hH => ?_⟩
  -- each field is set by its own patch and left alone by the later ones
  iterate 6 simp [u16_patch_other, u16_patch, hfit]
  · simp only [hp, patch_append, patch_size, hH, Nat.reduceAdd, Nat.reduceLeDiff]
    exact ⟨_, by simp [hH], rfl⟩

theorem writeQuestion_run (p : OutPacket) (q : QIn) :
    (p.writeQuestion q).Spec (fun p' => p.data.size + 5 ≤ p'.data.size) False (¬ NameOK q.name) := by
  unfold OutPacket.writeQuestion
  refine (writeName_run p q.name).elim (fun p1 h1 => ?_) False.elim id
  exact (by simp; omega : p.data.size + 5 ≤ ((p1.writeShort q.ty).writeShort CLASS_IN).data.size)

/-- an answer is a well-formed record and can be written without the TTL subtraction underflowing -/
def AnsOK (a : RecIn × Nat) : Prop := RecOK a.1 ∧ (a.2 = 0 ∨ a.2 ≤ expires a.1)

/-- the header of a finished packet agrees with the ghost lists of what it carries -/
def CountsOK (p : Packet) : Prop :=
  Ref.u16 p.data 4 = some (p.ghost.qs.length % 65536) ∧
  Ref.u16 p.data 6 = some (p.ghost.an.length % 65536) ∧
  Ref.u16 p.data 8 = some (p.ghost.au.length % 65536) ∧
  Ref.u16 p.data 10 = some (p.ghost.ad.length % 65536)

@[simp] theorem new_size : OutPacket.new.data.size = 12 := by simp [OutPacket.new]

instance (n : BList) : Decidable (NameOK n) := by unfold NameOK; infer_instance
instance (rd : Wire.RData) : Decidable (RDataOK rd) := by
  cases rd <;> simp only [RDataOK] <;> infer_instance
instance (r : RecIn) : Decidable (RecOK r) := by unfold RecOK; infer_instance
instance (a : RecIn × Nat) : Decidable (AnsOK a) := by unfold AnsOK; infer_instance

/-- The domain in which the encoder cannot panic: every label of every name (owner names,
    PTR and SRV targets) has at most 63 bytes, and an answer added with `now ≠ 0` is not
    past its expiry (which `add_answer_at_time` guarantees). -/
def MsgOK (o : OutMsg) : Prop :=
  (∀ q ∈ o.questions, NameOK q.name) ∧ (∀ a ∈ o.answers, AnsOK a) ∧
  (∀ r ∈ o.authorities, RecOK r) ∧ (∀ r ∈ o.additionals, RecOK r)

instance (o : OutMsg) : Decidable (MsgOK o) := by unfold MsgOK; infer_instance

/-- the id written into every header -/
def wireId (o : OutMsg) : Nat := if o.multicast then 0 else o.id

/-- size of the packet after the question loop (12 if there are no questions) -/
def questionsSize (o : OutMsg) : Nat :=
  match writeQuestions OutPacket.new o.questions with
  | .ok p => p.data.size
  | _ => 12

theorem lor_pointer (off : Nat) (h : off < 16384) : off ||| POINTER_MASK = off + 49152 := by
  have := Nat.shiftLeft_add_eq_or_of_lt (i := 14) (b := off) (by simpa using h) 3
  simp only [POINTER_MASK]
  rw [Nat.or_comm]
  have e : (3 <<< 14 : Nat) = 49152 := by decide
  rw [e] at this
  omega

theorem parseEscaped_escape (l : BList) (h : l ≠ []) : parseEscaped (escape l) = [l] := by
  have := parseEscapedGo_escape l [] []
  simp only [List.append_nil, List.nil_append] at this
  unfold parseEscaped
  rw [this]
  simp [parseEscapedGo, h]

theorem keyOf_parse (ls : List BList) (h : ∀ l ∈ ls, l ≠ []) : parseEscaped (keyOf ls) = ls := by
  induction ls with
  | nil => simp [keyOf, parseEscaped, parseEscapedGo]
  | cons l rest ih =>
    cases rest with
    | nil => exact parseEscaped_escape l (h l List.mem_cons_self)
    | cons l2 rest =>
      simp only [keyOf]
      unfold parseEscaped
      rw [List.append_assoc, parseEscapedGo_escape, List.nil_append, List.singleton_append,
        parseEscapedGo_dot _ _ (h l List.mem_cons_self)]
      congr 1
      exact ih (fun x hx => h x (List.mem_cons_of_mem _ hx))

theorem keyOf_inj (a b : List BList) (ha : ∀ l ∈ a, l ≠ []) (hb : ∀ l ∈ b, l ≠ []) (h : keyOf a = keyOf b) : a = b := by
  rw [← keyOf_parse a ha, ← keyOf_parse b hb, h]

theorem lookup_mem (k : BList) (ns : Names) (v : Nat) (h : lookup k ns = some v) : (k, v) ∈ ns := by
  induction ns with
  | nil => simp [lookup] at h
  | cons e rest ih =>
    obtain ⟨k', v'⟩ := e
    simp only [lookup] at h
    split at h
    · rename_i hk
      simp only [Option.some.injEq] at h
      subst h hk
      exact List.mem_cons_self
    · exact List.mem_cons_of_mem _ (ih h)

/-- an entry `(key, off)` of the compression table is sound with respect to the bytes `D`:
    the offset can be expressed as a pointer, the key is the key of a non-empty sequence
    of non-empty labels, and the reference reader reads exactly that sequence at `off`
    (within `B` steps) -/
def EntryOK (B : Nat) (D : Data) (e : BList × Nat) : Prop :=
  e.2 < D.size ∧ e.2 < 16384 ∧ ∃ ls, ls ≠ [] ∧ (∀ l ∈ ls, l ≠ []) ∧ e.1 = keyOf ls ∧
    ∃ f en, f ≤ B ∧ Ref.readNameFuel D f e.2 = some (ls, en)

def NamesOK (D : Data) (ns : Names) : Prop := ∀ e ∈ ns, EntryOK D.size D e

theorem EntryOK_append (B B' : Nat) (D x : Data) (e : BList × Nat) (h : EntryOK B D e) (hB : B ≤ B') :
    EntryOK B' (D ++ x) e := by
  obtain ⟨h1, h2, ls, h3, h4, h5, f, en, h6, h7⟩ := h
  exact ⟨by simp; omega, h2, ls, h3, h4, h5, f, en, by omega,
    Ref.readNameFuel_mono D x f f _ _ h7 (Nat.le_refl _)⟩

theorem NamesOK_append (D x : Data) (ns : Names) (h : NamesOK D ns) : NamesOK (D ++ x) ns :=
  fun e he => EntryOK_append _ _ D x e (h e he) (by simp)

/-- octets of a label sequence on the wire without compression -/
def wlen (ls : List BList) : Nat := (ls.map fun l => l.length + 1).sum + 1

theorem wlen_cons (l : BList) (rest : List BList) : wlen (l :: rest) = l.length + 1 + wlen rest := by
  simp [wlen]; omega

theorem wlen_pos (ls : List BList) : 1 ≤ wlen ls := by simp [wlen]

variable {d : Data} {off v : Nat} {a b : BList} {p p1 p2 : OutPacket} {n1 n2 : Names}
  {Q Q' Q1 Q2 : Data → Nat → Prop}

/-- the bytes `b` stand at offset `off` of `d` -/
def At (d : Data) (off : Nat) (b : BList) : Prop :=
  ∃ pre post, d.toList = pre ++ (b ++ post) ∧ pre.length = off

theorem at_size (D : Data) (b : BList) (x : Data) : At (D ++ b.toArray ++ x) D.size b :=
  ⟨D.toList, x.toList, by simp, by simp⟩

theorem at_end (D : Data) (b : BList) : At (D ++ b.toArray) D.size b :=
  ⟨D.toList, [], by simp, by simp⟩

theorem At.left (h : At d off (a ++ b)) : At d off a := by
  obtain ⟨pre, post, e, hl⟩ := h
  exact ⟨pre, b ++ post, by rw [e, List.append_assoc], hl⟩

theorem At.right (h : At d off (a ++ b)) : At d (off + a.length) b := by
  obtain ⟨pre, post, e, hl⟩ := h
  exact ⟨pre ++ a, post, by rw [e]; simp, by simp [hl]⟩

theorem At.le (h : At d off b) : off + b.length ≤ d.size := by
  obtain ⟨pre, post, e, rfl⟩ := h
  rw [← Array.length_toList, e]
  simp

theorem At.get {c : UInt8} {t : BList} (h : At d off (c :: t)) : d[off]? = some c := by
  obtain ⟨pre, post, e, rfl⟩ := h
  rw [← Array.getElem?_toList, e]
  simp

theorem At.bytes (h : At d off b) : Ref.bytesAt d off b.length = some b := by
  have hle := h.le
  obtain ⟨pre, post, e, rfl⟩ := h
  rw [Ref.bytesAt_eq_some]
  refine ⟨hle, ?_⟩
  rw [e, List.drop_left]
  simp

theorem At.u16 (h : At d off (be16 v)) : Ref.u16 d off = some (v % 65536) := by
  have h0 := h.get
  have h1 : d[off + 1]? = _ := (h.right (a := [UInt8.ofNat (v / 256)]) (b := [UInt8.ofNat v])).get
  simp [Ref.u16, h0, h1, UInt8.toNat_ofNat']
  omega

theorem At.u32 (h : At d off (be32 v)) : Ref.u32 d off = some (v % 4294967296) := by
  have e : be32 v = be16 (v / 65536) ++ be16 v := by simp [be32, be16, Nat.div_div_eq_div_mul]
  rw [e] at h
  have a := h.left.u16
  have b : Ref.u16 d (off + 2) = _ := h.right.u16
  simp [Ref.u32, a, b]
  omega

theorem readNameFuel_pointer {o : Nat} (off f : Nat) (r : Ref.Name × Nat)
    (hat : At d o (be16 (off ||| POINTER_MASK))) (h1 : off < o) (h2 : off < 16384)
    (h : Ref.readNameFuel d f off = some r) : Ref.readNameFuel d (f + 1) o = some (r.1, o + 2) := by
  rw [lor_pointer off h2] at hat
  have g0 := hat.get
  have g1 := (hat.right (a := [UInt8.ofNat ((off + 49152) / 256)]) (b := [UInt8.ofNat (off + 49152)])).get
  have t1 : (UInt8.ofNat ((off + 49152) / 256)).toNat = 192 + off / 256 := by
    simp [UInt8.toNat_ofNat'] <;> omega
  have t2 : (UInt8.ofNat (off + 49152)).toNat = off % 256 := by
    simp [UInt8.toNat_ofNat'] <;> omega
  have t0 : UInt8.ofNat ((off + 49152) / 256) ≠ 0 := by
    intro hc
    have := congrArg UInt8.toNat hc
    rw [t1] at this
    simp at this
  have e1 : ¬ (192 + off / 256 < 64) := by omega
  have e2 : 192 + off / 256 ≥ 192 := by omega
  have e3 : (192 + off / 256 - 192) * 256 + off % 256 = off := by omega
  simp only [Ref.readNameFuel, g0, show d[o + 1]? = _ from g1, t0, if_false, t1, t2, e1, e2, e3, if_true, h1, h]

theorem readNameFuel_label (l : BList) (f : Nat) (ls : Ref.Name) (e : Nat) (hat : At d off (UInt8.ofNat l.length :: l))
    (hl : l ≠ []) (h64 : l.length < 64) (h : Ref.readNameFuel d f (off + 1 + l.length) = some (ls, e)) :
    Ref.readNameFuel d (f + 1) off = some (l :: ls, e) := by
  have hc : (UInt8.ofNat l.length).toNat = l.length := by
    simp [UInt8.toNat_ofNat'] <;> omega
  have t0 : UInt8.ofNat l.length ≠ 0 := by
    intro hc0
    have := congrArg UInt8.toNat hc0
    rw [hc] at this
    exact hl (List.eq_nil_of_length_eq_zero (by simpa using this))
  have hb : Ref.bytesAt d (off + 1) l.length = some l := (hat.right (a := [UInt8.ofNat l.length]) (b := l)).bytes
  simp only [Ref.readNameFuel, hat.get, t0, if_false, hc, h64, if_true, hb, h]

/-- The loop of `write_name`.  `pending` are the keys entered for the enclosing names, which are
    strictly longer than `ls`, so a table hit for `ls` or a suffix of it is always in `old`; only
    `old` needs to be sound, the new entries become so once the whole name is written. -/
theorem writeLabels_spec (ls : List BList) : ∀ (p p' : OutPacket) (pending old : Names),
    writeLabels p ls = .ok p' →
    (∀ l ∈ ls, l ≠ []) →
    p.names = pending ++ old →
    (∀ e ∈ pending, ∃ ls', e.1 = keyOf ls' ∧ (∀ l ∈ ls', l ≠ []) ∧ ls.length < ls'.length) →
    p.data.size + wlen ls ≤ 16384 →
    ∃ (bs : BList) (new : Names),
      p'.data = p.data ++ bs.toArray ∧ p'.finished = p.finished ∧ p'.names = new ++ pending ++ old ∧
      1 ≤ bs.length ∧ bs.length ≤ wlen ls ∧
      (∀ e ∈ new, p.data.size ≤ e.2 ∧ e.2 < p.data.size + bs.length) ∧
      ∀ (D : Data) (B : Nat), D.size = p.data.size → (∀ e ∈ old, EntryOK B D e) →
        (∃ f, f ≤ bs.length + B ∧
          Ref.readNameFuel (D ++ bs.toArray) f D.size = some (ls, D.size + bs.length)) ∧
        (∀ e ∈ new, ∃ ls', ls' ≠ [] ∧ (∀ l ∈ ls', l ≠ []) ∧ e.1 = keyOf ls' ∧
            ∃ f en, f ≤ bs.length + B ∧ Ref.readNameFuel (D ++ bs.toArray) f e.2 = some (ls', en)) := by
  induction ls with
  | nil =>
    intro p p' pending old h _ hn _ _
    simp only [writeLabels, Res.ok.injEq] at h
    subst h
    refine ⟨[0], [], ?_, by simp, by simp [hn], by simp, by simp [wlen], by simp, ?_⟩
    · simp
    · intro D B hD _
      refine ⟨⟨1, by simp, ?_⟩, by simp⟩
      simp [Ref.readNameFuel]
  | cons l rest ih =>
    intro p p' pending old h hne hn hp hsz
    have hl : l ≠ [] := hne l List.mem_cons_self
    have hrest : ∀ x ∈ rest, x ≠ [] := fun x hx => hne x (List.mem_cons_of_mem _ hx)
    simp only [writeLabels] at h
    split at h
    · -- compression hit
      rename_i off hlk
      simp only [Res.ok.injEq] at h
      subst h
      have hmem := lookup_mem _ _ _ hlk
      rw [hn, List.mem_append] at hmem
      have hold : (keyOf (l :: rest), off) ∈ old := by
        rcases hmem with hm | hm
        · obtain ⟨ls', h1, h2, h3⟩ := hp _ hm
          have := keyOf_inj _ _ hne h2 h1
          rw [← this] at h3
          exact absurd h3 (Nat.lt_irrefl _)
        · exact hm
      refine ⟨be16 (off ||| POINTER_MASK), [], by simp, by simp, by simp [hn], by simp, ?_, by simp, ?_⟩
      · rw [wlen_cons]
        have := wlen_pos rest
        simp
        omega
      · intro D B hD hold'
        refine ⟨?_, by simp⟩
        obtain ⟨h1, h2, ls', h3, h4, h5, f, en, h6, h7⟩ := hold' _ hold
        simp only at h1 h2 h5 h7
        have hls : ls' = l :: rest := (keyOf_inj _ _ hne h4 h5).symm
        subst hls
        exact ⟨f + 1, by simp; omega, readNameFuel_pointer off f _ (at_end D _) h1 h2
          (Ref.readNameFuel_mono D _ f f off _ h7 (Nat.le_refl _))⟩
    · -- no hit: the label is written and the suffix is remembered
      rename_i hlk
      split at h
      · rename_i p1 hu
        obtain ⟨u1, u2, u3, u4⟩ := (writeUtf8_run _ _).of_ok hu
        simp only [] at u1 u2 u3
        have hmod : p.data.size % 65536 = p.data.size := by
          apply Nat.mod_eq_of_lt
          have := wlen_pos (l :: rest)
          omega
        rw [hmod, hn] at u2
        have hsz1 : p1.data.size + wlen rest ≤ 16384 := by
          rw [u1]
          rw [wlen_cons] at hsz
          simp
          omega
        obtain ⟨bs', new', i1, i2, i3, i4, i5, i6, i7⟩ := ih p1 p' ((keyOf (l :: rest), p.data.size) :: pending) old h hrest
          (by rw [u2]; simp)
          (by
            intro e he
            simp only [List.mem_cons] at he
            rcases he with rfl | he
            · exact ⟨l :: rest, rfl, hne, by simp⟩
            · obtain ⟨ls', a1, a2, a3⟩ := hp e he
              exact ⟨ls', a1, a2, by simp at a3; omega⟩)
          hsz1
        have hdata : p'.data = p.data ++ (UInt8.ofNat l.length :: (l ++ bs')).toArray := by
          rw [i1, u1]
          apply Array.toList_inj.mp
          simp
        refine ⟨UInt8.ofNat l.length :: (l ++ bs'), new' ++ [(keyOf (l :: rest), p.data.size)],
          hdata, by rw [i2, u3], by rw [i3]; simp, by simp, ?_, ?_, ?_⟩
        · rw [wlen_cons]; simp; omega
        · intro e he
          simp only [List.mem_append, List.mem_singleton] at he
          rcases he with he | rfl
          · have := i6 e he
            rw [u1] at this
            simp at this ⊢
            omega
          · simp
        · intro D B hD hold
          have hD1 : (D ++ (UInt8.ofNat l.length :: l).toArray).size = p1.data.size := by
            rw [u1]; simp; omega
          have hold1 : ∀ e ∈ old, EntryOK B (D ++ (UInt8.ofNat l.length :: l).toArray) e :=
            fun e he => EntryOK_append B B D _ e (hold e he) (Nat.le_refl _)
          obtain ⟨⟨f', j1, j2⟩, j3⟩ := i7 _ B hD1 hold1
          have hcat : D ++ (UInt8.ofNat l.length :: l).toArray ++ bs'.toArray =
              D ++ (UInt8.ofNat l.length :: (l ++ bs')).toArray := by
            apply Array.toList_inj.mp
            simp
          rw [hcat] at j2
          have hoff : (D ++ (UInt8.ofNat l.length :: l).toArray).size = D.size + 1 + l.length := by simp; omega
          rw [hoff] at j2
          have hread := readNameFuel_label l f' rest _ (at_end D (UInt8.ofNat l.length :: l ++ bs')).left hl u4 j2
          rw [show D.size + 1 + l.length + bs'.length = D.size + (UInt8.ofNat l.length :: (l ++ bs')).length by
            simp; omega] at hread
          refine ⟨⟨f' + 1, by simp; omega, hread⟩, ?_⟩
          intro e he
          simp only [List.mem_append, List.mem_singleton] at he
          rcases he with he | rfl
          · obtain ⟨ls', k1, k2, k3, f, en, k4, k5⟩ := j3 e he
            rw [hcat] at k5
            exact ⟨ls', k1, k2, k3, f, en, by simp; omega, k5⟩
          · refine ⟨l :: rest, by simp, hne, rfl, f' + 1,
              D.size + (UInt8.ofNat l.length :: (l ++ bs')).length, by simp; omega, ?_⟩
            simp only []
            rw [← hD]
            exact hread
      · simp at h
      · simp at h

theorem wireLen_eq (ls : List BList) : Ref.wireLen ls = wlen ls := rfl

theorem writeName_spec (p p' : OutPacket) (name : BList) (h : p.writeName name = .ok p')
    (hsz : p.data.size + wlen (labelsOf name) ≤ 16384) :
    ∃ (bs : BList) (new : Names),
      p'.data = p.data ++ bs.toArray ∧ p'.finished = p.finished ∧ p'.names = new ++ p.names ∧
      1 ≤ bs.length ∧ bs.length ≤ wlen (labelsOf name) ∧
      (∀ e ∈ new, p.data.size ≤ e.2 ∧ e.2 < p.data.size + bs.length) ∧
      ∀ D : Data, D.size = p.data.size → NamesOK D p.names →
        NamesOK (D ++ bs.toArray) p'.names ∧
        (wlen (labelsOf name) ≤ 255 → ∀ x : Data,
          Ref.readName (D ++ bs.toArray ++ x) D.size = some (labelsOf name, D.size + bs.length)) := by
  obtain ⟨bs, new, h1, h2, h3, h4, h5, h6, h7⟩ :=
    writeLabels_spec (labelsOf name) p p' [] p.names h (parseEscapedGo_no_empty _ _) (by simp) (by simp) hsz
  refine ⟨bs, new, h1, h2, by simpa using h3, h4, h5, h6, ?_⟩
  intro D hD hN
  obtain ⟨⟨f, g1, g2⟩, g3⟩ := h7 D D.size hD hN
  constructor
  · intro e he
    rw [h3] at he
    simp only [List.append_nil, List.mem_append] at he
    rcases he with he | he
    · obtain ⟨ls', k1, k2, k3, f', en, k4, k5⟩ := g3 e he
      have := h6 e he
      refine ⟨by simp; omega, by omega, ls', k1, k2, k3, f', en, by simp; omega, k5⟩
    · exact EntryOK_append _ _ D _ e (hN e he) (by simp)
  · intro hw x
    unfold Ref.readName
    rw [Ref.readNameFuel_mono (D ++ bs.toArray) x f _ D.size _ g2 (by simp; omega)]
    simp only [wireLen_eq, hw, if_true]

/-- The contract of a writer.  `D` stands for any bytes in place of `p.data`: the header is patched
    later.  `Q d off`: what the reference reader finds at `off` in the packet `d`. -/
structure Wrote (p p' : OutPacket) (bs : BList) (new : Names) (Q : Data → Nat → Prop) : Prop where
  data : p'.data = p.data ++ bs.toArray
  names : p'.names = new ++ p.names
  inside : ∀ e ∈ new, p.data.size ≤ e.2 ∧ e.2 < p.data.size + bs.length
  sound : ∀ D : Data, D.size = p.data.size → NamesOK D p.names →
    NamesOK (D ++ bs.toArray) p'.names ∧ ∀ x : Data, Q (D ++ bs.toArray ++ x) D.size

theorem Wrote.bytes (p : OutPacket) (b : BList) : Wrote p (p.writeBytes b) b [] (fun d off => At d off b) :=
  ⟨by simp, by simp, by simp, fun D _ hN =>
    ⟨by simpa using NamesOK_append D b.toArray _ hN, at_size D b⟩⟩

theorem Wrote.mono (h : Wrote p p1 a n1 Q) (hQ : ∀ d off, Q d off → Q' d off) : Wrote p p1 a n1 Q' :=
  ⟨h.data, h.names, h.inside, fun D hD hN => ⟨(h.sound D hD hN).1, fun x => hQ _ _ ((h.sound D hD hN).2 x)⟩⟩

/-- the contract speaks of `p` only through its size and its table -/
theorem Wrote.transfer {q q' : OutPacket} (h : Wrote p p1 a n1 Q) (hs : q.data.size = p.data.size)
    (hn : q.names = p.names) (hd : q'.data = q.data ++ a.toArray) (hn' : q'.names = p1.names) :
    Wrote q q' a n1 Q :=
  ⟨hd, by rw [hn', h.names, hn], by rw [hs]; exact h.inside,
    by rw [hs, hn, hn']; exact h.sound⟩

theorem Wrote.withAt (h : Wrote p p1 a n1 Q) : Wrote p p1 a n1 (fun d off => At d off a ∧ Q d off) :=
  ⟨h.data, h.names, h.inside, fun D hD hN =>
    ⟨(h.sound D hD hN).1, fun x => ⟨at_size D a x, (h.sound D hD hN).2 x⟩⟩⟩

theorem Wrote.seq (h1 : Wrote p p1 a n1 Q1) (h2 : Wrote p1 p2 b n2 Q2) :
    Wrote p p2 (a ++ b) (n2 ++ n1) (fun d off => Q1 d off ∧ Q2 d (off + a.length)) := by
  have e0 : ∀ D : Data, D ++ (a ++ b).toArray = D ++ a.toArray ++ b.toArray := fun D => by
    rw [← List.append_toArray, Array.append_assoc]
  have hs : p1.data.size = p.data.size + a.length := by rw [h1.data]; simp
  refine ⟨by rw [h2.data, h1.data, e0],
    by rw [h2.names, h1.names, List.append_assoc], fun e he => ?_, fun D hD hN => ?_⟩
  · rw [List.length_append]
    rcases List.mem_append.mp he with he | he
    · have := h2.inside e he; omega
    · have := h1.inside e he; omega
  · obtain ⟨s1, r1⟩ := h1.sound D hD hN
    obtain ⟨s2, r2⟩ := h2.sound (D ++ a.toArray) (by rw [hs]; simp [hD]) s1
    rw [e0]
    refine ⟨s2, fun x => ⟨by rw [Array.append_assoc]; exact r1 _, ?_⟩⟩
    have := r2 x
    rwa [show (D ++ a.toArray).size = D.size + a.length by simp] at this

theorem extract_append_left (A : Data) (B : Data) : (A ++ B).extract 0 A.size = A := by
  apply Array.toList_inj.mp
  simp

/-- `data.truncate(start_size)` and `names.retain(offset < start_size)` undo a writer exactly -/
theorem Wrote.rollback (h : Wrote p p1 a n1 Q) (hb : ∀ e ∈ p.names, e.2 < p.data.size) :
    (p1.rollback p.data.size).data = p.data ∧ (p1.rollback p.data.size).names = p.names := by
  refine ⟨by rw [rollback_data, h.data, extract_append_left], ?_⟩
  rw [rollback_names, h.names, List.filter_append, List.filter_eq_nil_iff.mpr, List.filter_eq_self.mpr]
  · rfl
  · exact fun e he => by simpa using hb e he
  · exact fun e he => by have := h.inside e he; simp; omega

/-- `writeName_spec` as a `Wrote` -/
theorem writeName_wrote (p p' : OutPacket) (name : BList) (h : p.writeName name = .ok p')
    (hsz : p.data.size + wlen (labelsOf name) ≤ 16384) :
    ∃ bs new, bs.length ≤ wlen (labelsOf name) ∧ Wrote p p' bs new (fun d off =>
      wlen (labelsOf name) ≤ 255 → Ref.readName d off = some (labelsOf name, off + bs.length)) := by
  obtain ⟨bs, new, h1, _, h3, _, h5, h6, h7⟩ := writeName_spec p p' name h hsz
  exact ⟨bs, new, h5, h1, h3, h6, fun D hD hN => ⟨(h7 D hD hN).1, fun x hw => (h7 D hD hN).2 hw x⟩⟩

/-- a question inside the domain of the round-trip theorem -/
def QWF (q : QIn) : Prop := wlen (labelsOf q.name) ≤ 255 ∧ q.ty < 65536

theorem toList_app3 (D : Data) (a b : BList) (x : Data) :
    (D ++ (a ++ b).toArray ++ x).toList = (D.toList ++ a) ++ (b ++ x.toList) := by simp

theorem writeQuestion_wrote (p p' : OutPacket) (q : QIn) (h : p.writeQuestion q = .ok p')
    (hsz : p.data.size + wlen (labelsOf q.name) ≤ 16384) :
    ∃ bs new, Wrote p p' bs new (fun d off =>
      QWF q → Ref.readQuestion d off = some (expQ q, off + bs.length)) := by
  unfold OutPacket.writeQuestion at h
  split at h
  · rename_i p1 h1
    cases h
    obtain ⟨nb, new, _, w⟩ := writeName_wrote p p1 q.name h1 hsz
    refine ⟨_, _, ((w.seq (.bytes p1 (be16 q.ty))).seq (.bytes _ (be16 CLASS_IN))).mono fun d off hq hw => ?_⟩
    obtain ⟨⟨hn, ht⟩, hc⟩ := hq
    simp only [List.length_append, be16_length, ← Nat.add_assoc] at hc ⊢
    simp only [Ref.readQuestion, hn hw.1, ht.u16, hc.u16, Nat.mod_eq_of_lt hw.2]
    rfl
  · cases h
  · cases h

/-- RDATA inside the domain of the round-trip theorem: the record type matches the kind
    of data (as the crate's constructors are used), fixed sizes for addresses, 16-bit SRV
    fields, names of at most 255 octets -/
def RDataWF (ty : Nat) : Wire.RData → Prop
  | .a ip => ty = 1 ∧ ip.length = 4
  | .aaaa ip => ty = 28 ∧ ip.length = 16
  | .ptr n => (ty = 12 ∨ ty = 5) ∧ wlen (labelsOf n) ≤ 255
  | .srv p w port h => ty = 33 ∧ p < 65536 ∧ w < 65536 ∧ port < 65536 ∧ wlen (labelsOf h) ≤ 255
  | .txt _ => ty = 16
  | .hinfo .. => False
  | .nsec .. => False

/-- room needed so that the name inside RDATA gets offsets below 16384 -/
def rdNameLen : Wire.RData → Nat
  | .ptr n => wlen (labelsOf n)
  | .srv _ _ _ h => 6 + wlen (labelsOf h)
  | _ => 0

theorem writeBytes_writeBytes (p : OutPacket) (a b : BList) :
    (p.writeBytes a).writeBytes b = p.writeBytes (a ++ b) := by
  cases p; simp [OutPacket.writeBytes]

theorem writeRData_wrote (p p' : OutPacket) (rd : Wire.RData) (h : p.writeRData rd = .ok p')
    (hsz : p.data.size + rdNameLen rd ≤ 16384) :
    ∃ bs new, Wrote p p' bs new (fun d off =>
      ∀ ty, RDataWF ty rd → Ref.readRData d ty off bs.length = some (expRData rd)) := by
  cases rd with
  | a ip | aaaa ip =>
    cases h
    refine ⟨_, _, (Wrote.bytes p ip).mono fun d off ha ty hw => ?_⟩
    obtain ⟨rfl, h4⟩ := hw
    have := ha.bytes
    rw [h4] at this
    simp [Ref.readRData, h4, this, expRData]
  | txt b =>
    cases h
    refine ⟨_, _, (Wrote.bytes p b).mono fun d off ha ty hw => ?_⟩
    cases (hw : ty = 16)
    simp [Ref.readRData, ha.bytes, expRData]
  | hinfo c o | nsec c o =>
    cases h
    exact ⟨_, _, ((Wrote.bytes p c).seq (.bytes _ o)).mono fun _ _ _ _ hw => hw.elim⟩
  | ptr n =>
    obtain ⟨nb, new, _, w⟩ := writeName_wrote p p' n h hsz
    refine ⟨nb, new, w.mono fun d off hn ty hw => ?_⟩
    obtain ⟨ht, hl⟩ := hw
    have t1 : ty ≠ 1 := by omega
    have t2 : ty ≠ 28 := by omega
    simp [Ref.readRData, t1, t2, ht, hn hl, expRData]
  | srv pr w port host =>
    obtain ⟨nb, new, _, wn⟩ := writeName_wrote _ p' host h (by simp only [rdNameLen] at hsz; simp; omega)
    refine ⟨_, _, ((((Wrote.bytes p (be16 pr)).seq (.bytes _ (be16 w))).seq (.bytes _ (be16 port))).seq wn).mono
      fun d off hq ty hw => ?_⟩
    obtain ⟨⟨⟨h1, h2⟩, h3⟩, hn⟩ := hq
    obtain ⟨rfl, b1, b2, b3, hl⟩ := hw
    simp only [List.length_append, be16_length, ← Nat.add_assoc] at h2 h3 hn ⊢
    simp only [Ref.readRData, h1.u16, h2.u16, h3.u16, hn hl]
    simp [expRData, Nat.mod_eq_of_lt b1, Nat.mod_eq_of_lt b2, Nat.mod_eq_of_lt b3]
    omega

/-- the ten bytes between owner name and RDATA -/
def fixed10 (ty cls ttl len : Nat) : BList := be16 ty ++ be16 cls ++ be32 ttl ++ be16 len

@[simp] theorem fixed10_length (ty cls ttl len : Nat) : (fixed10 ty cls ttl len).length = 10 := rfl

/-- CLASS field as written: class with the cache-flush bit -/
def clsBits (r : RecIn) : Nat := if r.flush then r.cls + 32768 else r.cls

theorem patch_fixed10 (A : Data) (ty cls ttl v : Nat) (R : BList) :
    patch (A ++ (fixed10 ty cls ttl 0 ++ R).toArray) (A.size + 8) v = A ++ (fixed10 ty cls ttl v ++ R).toArray := by
  have e : ∀ v, A ++ (fixed10 ty cls ttl v ++ R).toArray =
      (A ++ (be16 ty ++ be16 cls ++ be32 ttl).toArray) ++ (be16 v ++ R).toArray := fun v => by
    apply Array.toList_inj.mp; simp [fixed10]
  rw [e 0, e v, show A.size + 8 = (A ++ (be16 ty ++ be16 cls ++ be32 ttl).toArray).size by simp]
  exact patch_placeholder _ _ _

theorem writeRecordBody_wrote (p1 p7 : OutPacket) (r : RecIn) (ttl : Nat)
    (h : p1.writeRecordBody r ttl = .ok p7) (hsz : p1.data.size + 10 + rdNameLen r.rdata ≤ 16384) :
    ∃ rd new, Wrote p1 p7 (fixed10 r.ty (clsBits r) ttl (rd.length % 65536) ++ rd) new (fun d off =>
      RDataWF r.ty r.rdata → Ref.readRData d r.ty (off + 10) rd.length = some (expRData r.rdata)) := by
  simp only [OutPacket.writeRecordBody] at h
  split at h
  · cases h
  · cases h
  · rename_i p6 h6
    have e5 : (((p1.writeShort r.ty).writeShort (if r.flush = true then r.cls + 32768 else r.cls)).writeU32 ttl).writeShort 0
        = p1.writeBytes (fixed10 r.ty (clsBits r) ttl 0) := by
      simp only [OutPacket.writeShort, OutPacket.writeU32, writeBytes_writeBytes, fixed10, clsBits]
    rw [e5] at h h6
    obtain ⟨rd, new, w6⟩ := writeRData_wrote _ p6 r.rdata h6 (by simp; omega)
    obtain ⟨hi, i2, i3, _⟩ := (insertShort_run _ _ _).of_ok h
    have hlen : p6.data.size - (p1.writeBytes (fixed10 r.ty (clsBits r) ttl 0)).data.size = rd.length := by
      rw [w6.data]; simp; omega
    have hidx : (p1.writeBytes (fixed10 r.ty (clsBits r) ttl 0)).data.size - 2 = p1.data.size + 8 := by simp
    rw [hlen, hidx, w6.data] at hi
    refine ⟨rd, _, ((Wrote.bytes p1 (fixed10 r.ty (clsBits r) ttl (rd.length % 65536))).seq
      (w6.transfer (by simp) (by simp) ?_ i2)).mono fun d off hq hw => hq.2 r.ty hw⟩
    rw [hi]
    simp only [writeBytes_data, Array.append_assoc, List.append_toArray, patch_fixed10]

/-- a record inside the domain of the round-trip theorem -/
def RecWF (r : RecIn) (now : Nat) : Prop :=
  wlen (labelsOf r.name) ≤ 255 ∧ r.ty < 65536 ∧ r.cls < 32768 ∧ ttlOf r now < 4294967296 ∧
  RDataWF r.ty r.rdata

theorem readRecord_of_layout {o ty cls ttl : Nat} {rd : BList} {n : Ref.Name} {v : Ref.RData}
    (hn : Ref.readName d off = some (n, o)) (hat : At d o (fixed10 ty cls ttl rd.length ++ rd))
    (hty : ty < 65536) (hcls : cls < 65536) (httl : ttl < 4294967296) (hlen : rd.length < 65536)
    (hrd : Ref.readRData d ty (o + 10) rd.length = some v) :
    Ref.readRecord d off =
      some ({ name := n, type := ty, cls := cls % 32768, flush := decide (cls ≥ 32768), ttl := ttl, rdata := v },
        o + 10 + rd.length) := by
  have hF : At d o (be16 ty ++ be16 cls ++ be32 ttl ++ be16 rd.length) := hat.left
  have hle := hat.le
  rw [List.length_append, fixed10_length] at hle
  have u1 := hF.left.left.left.u16
  have u2 : Ref.u16 d (o + 2) = _ := hF.left.left.right.u16
  have u3 : Ref.u32 d (o + 4) = _ := hF.left.right.u32
  have u4 : Ref.u16 d (o + 8) = _ := hF.right.u16
  rw [Nat.mod_eq_of_lt hty] at u1
  rw [Nat.mod_eq_of_lt hcls] at u2
  rw [Nat.mod_eq_of_lt httl] at u3
  rw [Nat.mod_eq_of_lt hlen] at u4
  unfold Ref.readRecord
  rw [hn]
  simp only [u1, u2, u3, u4, hrd, if_pos (show o + 10 + rd.length ≤ d.size by omega)]

theorem rdNameLen_le (ty : Nat) (rd : Wire.RData) (h : RDataWF ty rd) : rdNameLen rd ≤ 261 := by
  cases rd <;> simp only [RDataWF, rdNameLen] at * <;> omega

theorem writeRecord_spec (p p' : OutPacket) (r : RecIn) (now : Nat) (b : Bool)
    (h : p.writeRecord r now = .ok (p', b)) (hw : RecWF r now) (hs : p.data.size ≤ MAX_MSG_ABSOLUTE)
    (hb : ∀ e ∈ p.names, e.2 < p.data.size) :
    (b = false → p'.data = p.data ∧ p'.names = p.names) ∧
    (b = true → ∃ (bs : BList) (new : Names),
        p'.data = p.data ++ bs.toArray ∧ p'.names = new ++ p.names ∧ p'.finished = p.finished ∧
        (∀ e ∈ new, p.data.size ≤ e.2 ∧ e.2 < p.data.size + bs.length) ∧
        ∀ D : Data, D.size = p.data.size → NamesOK D p.names →
          NamesOK (D ++ bs.toArray) p'.names ∧
          ∀ x : Data, Ref.readRecord (D ++ bs.toArray ++ x) D.size = some (expRec r now, D.size + bs.length)) := by
  obtain ⟨w1, w2, w3, w4, w5⟩ := hw
  have hrl := rdNameLen_le _ _ w5
  simp only [MAX_MSG_ABSOLUTE] at hs
  simp only [OutPacket.writeRecord] at h
  split at h
  · cases h
  · cases h
  · rename_i p1 h1
    obtain ⟨nb, new1, hnb, wn⟩ := writeName_wrote p p1 r.name h1 (by omega)
    split at h
    · cases h
    · cases h
    · rename_i ttl ht
      have httl := (ttl_run r now).of_ok ht w4
      split at h
      · cases h
      · cases h
      · rename_i p7 h7
        have hs1 : p1.data.size = p.data.size + nb.length := by rw [wn.data]; simp
        obtain ⟨rd, new2, wb⟩ := writeRecordBody_wrote p1 p7 r ttl h7 (by omega)
        have W := wn.seq wb
        have hs7 : p7.data.size = p.data.size + (nb.length + (10 + rd.length)) := by rw [W.data]; simp
        split at h
        · cases h
          exact ⟨fun _ => W.rollback hb, fun hc => (nomatch hc)⟩
        · rename_i hfit
          cases h
          refine ⟨fun hc => (nomatch hc), fun _ => ?_⟩
          simp only [MAX_MSG_ABSOLUTE] at hfit
          rw [Nat.mod_eq_of_lt (show rd.length < 65536 by omega)] at W
          have W' := W.withAt.mono (Q' := fun d off => Ref.readRecord d off =
              some (expRec r now, off + (nb ++ (fixed10 r.ty (clsBits r) ttl rd.length ++ rd)).length))
            fun d off hq => by
              obtain ⟨hat, hn, hrd⟩ := hq
              have hcls : clsBits r < 65536 := by unfold clsBits; split <;> omega
              have k1 : clsBits r % 32768 = r.cls := by unfold clsBits; split <;> omega
              have k2 : decide (clsBits r ≥ 32768) = r.flush := by
                unfold clsBits; cases hf : r.flush <;> simp <;> omega
              rw [readRecord_of_layout (hn w1) hat.right w2 hcls (by rw [httl]; exact w4) (by omega) (hrd w5),
                k1, k2, httl]
              simp [expRec, ttlOf]
              omega
          exact ⟨_, _, W'.data, W'.names,
            ((writeRecordBody_run _ _ _).of_ok h7).2.trans ((writeName_run _ _).of_ok h1).2, W'.inside, W'.sound⟩

/-- Invariant of a packet under construction, for ANY content of the twelve header bytes (the
    header is patched at the very end): the compression table is sound, and an RFC 1035 reader
    finds, after the header, exactly `nq` questions `qexp` followed by the records `rexp`, ending
    where the packet ends - also when more bytes follow.  It is the contract of all that was
    written since `DnsOutPacket::new`. -/
def Inv (p : OutPacket) (nq : Nat) (qexp : List Ref.Question) (rexp : List Ref.Record) : Prop :=
  12 + 5 * nq + 11 * rexp.length ≤ p.data.size ∧ ∃ body : BList,
    Wrote OutPacket.new p body p.names fun d off => ∃ o1,
      Ref.readMany (Ref.readQuestion d) nq off = some (qexp, o1) ∧
      Ref.readMany (Ref.readRecord d) rexp.length o1 = some (rexp, off + body.length)

theorem Inv_new : Inv OutPacket.new 0 [] [] :=
  ⟨by simp, [], by simp, rfl, fun _ h => (nomatch h), fun D _ hN =>
    ⟨by simpa using hN, fun _ => ⟨_, rfl, rfl⟩⟩⟩

theorem Inv_question (p p' : OutPacket) (nq : Nat) (qexp : List Ref.Question) (q : QIn)
    (hi : Inv p nq qexp []) (h : p.writeQuestion q = .ok p') (hw : QWF q)
    (hs : p.data.size ≤ MAX_MSG_ABSOLUTE) : Inv p' (nq + 1) (qexp ++ [expQ q]) [] := by
  simp only [MAX_MSG_ABSOLUTE] at hs
  obtain ⟨h2, body, wi⟩ := hi
  obtain ⟨bs, new, w⟩ := writeQuestion_wrote p p' q h (by have := hw.1; omega)
  have hgrow := (writeQuestion_run _ _).of_ok h
  have W := wi.seq w
  rw [← w.names] at W
  refine ⟨by simp at h2 ⊢; omega, body ++ bs, W.mono fun d off hq => ?_⟩
  obtain ⟨⟨o1, m1, m2⟩, rq⟩ := hq
  cases (Option.some.inj m2 : ([], o1) = _)
  exact ⟨_, Ref.readMany_snoc _ _ _ _ _ _ _ m1 (rq hw), by simp [Ref.readMany, Nat.add_assoc]⟩

theorem Inv_record (p p' : OutPacket) (nq : Nat) (qexp : List Ref.Question) (rexp : List Ref.Record)
    (r : RecIn) (now : Nat) (b : Bool)
    (hi : Inv p nq qexp rexp) (h : p.writeRecord r now = .ok (p', b)) (hw : RecWF r now)
    (hs : p.data.size ≤ MAX_MSG_ABSOLUTE) :
    Inv p' nq qexp (if b then rexp ++ [expRec r now] else rexp) := by
  obtain ⟨h2, body, wi⟩ := hi
  obtain ⟨s1, s2⟩ := writeRecord_spec p p' r now b h hw hs fun e he => by
    have := (wi.inside e he).2
    rw [wi.data]
    simpa using this
  cases b with
  | false =>
    obtain ⟨d1, d2⟩ := s1 rfl
    exact ⟨by rw [d1]; exact h2, body, by rw [d2]; exact wi.transfer rfl rfl (by rw [d1, wi.data]) d2⟩
  | true =>
    obtain ⟨bs, new, a1, a2, a3, a4, a5⟩ := s2 rfl
    have hgrow := ((writeRecord_run _ _ _).of_ok h).1 rfl
    dsimp only at hgrow
    have W := wi.seq (Q2 := fun d off => Ref.readRecord d off = some (expRec r now, off + bs.length))
      ⟨a1, a2, a4, a5⟩
    rw [← a2] at W
    refine ⟨by simp at h2 ⊢; omega, body ++ bs, W.mono fun d off hq => ?_⟩
    obtain ⟨⟨o1, m1, m2⟩, rr⟩ := hq
    exact ⟨o1, m1, by simpa [Nat.add_assoc] using Ref.readMany_snoc _ _ _ _ _ _ _ m2 rr⟩

theorem writeQuestions_run (qs : List QIn) : ∀ p : OutPacket,
    (writeQuestions p qs).Spec (fun p' => p.data.size ≤ p'.data.size ∧
      ((∀ q ∈ qs, QWF q) → p'.data.size ≤ MAX_MSG_ABSOLUTE → ∀ nq qexp, Inv p nq qexp [] →
        Inv p' (nq + qs.length) (qexp ++ qs.map expQ) [])) False (¬ ∀ q ∈ qs, NameOK q.name) := by
  induction qs with
  | nil => exact fun p => ⟨Nat.le_refl _, fun _ _ nq qexp hi => by simpa using hi⟩
  | cons q qs ih =>
    intro p
    rw [writeQuestions]
    refine (writeQuestion_run p q).elimEq (fun p1 e1 h1 => ?_) False.elim fun hc hall => hc (hall q List.mem_cons_self)
    refine (ih p1).imp (fun p' h' => ⟨by omega, fun hw hs nq qexp hi => ?_⟩) id
      fun hc hall => hc fun x hx => hall x (List.mem_cons_of_mem _ hx)
    have i1 := Inv_question p p1 nq qexp q hi e1 (hw q List.mem_cons_self) (by omega)
    simpa [Nat.add_assoc, Nat.add_comm 1] using
      h'.2 (fun x hx => hw x (List.mem_cons_of_mem _ hx)) hs (nq + 1) _ i1

/-- The second loop, started with count `c` and kept answers `w`: the packet stays within any
    bound `B ≥ 8972` it was within, `s` is what it kept, and in the domain of the round trip the
    reader finds the records of `s` after what it found before. -/
theorem writeAnswers_run (as : List (RecIn × Nat)) : ∀ (p : OutPacket) (c : Nat) (w : List (RecIn × Nat)),
    (writeAnswers p c w as).Spec (fun x => p.data.size ≤ x.1.data.size ∧
      (∀ B, MAX_MSG_ABSOLUTE ≤ B → p.data.size ≤ B → x.1.data.size ≤ B) ∧
      x.2.1 + w.length = c + x.2.2.length ∧ ∃ s, x.2.2 = w ++ s ∧ s.Sublist as ∧
      ((∀ a ∈ as, RecWF a.1 a.2) → p.data.size ≤ MAX_MSG_ABSOLUTE → ∀ nq qexp rexp, Inv p nq qexp rexp →
        Inv x.1 nq qexp (rexp ++ s.map fun a => expRec a.1 a.2))) False (¬ ∀ a ∈ as, AnsOK a) := by
  induction as with
  | nil => exact fun p c w => ⟨Nat.le_refl _, fun _ _ h => h, rfl, [], by simp, .slnil,
      fun _ _ nq qexp rexp hi => by simpa using hi⟩
  | cons a as ih =>
    intro p c w
    obtain ⟨r, now⟩ := a
    rw [writeAnswers]
    refine (writeRecord_run p r now).elimEq (fun ⟨p1, b⟩ e1 h1 => ?_) False.elim
      fun hc hall => hc (hall (r, now) List.mem_cons_self)
    dsimp only at h1
    have hrest : (¬ ∀ a ∈ as, AnsOK a) → ¬ ∀ a ∈ (r, now) :: as, AnsOK a :=
      fun hc hall => hc fun x hx => hall x (List.mem_cons_of_mem _ hx)
    have hi1 := fun (hw : ∀ a ∈ (r, now) :: as, RecWF a.1 a.2) hs nq qexp rexp hi =>
      Inv_record p p1 nq qexp rexp r now b hi e1 (hw _ List.mem_cons_self) hs
    cases b
    · have s := h1.2 rfl
      refine (ih p1 c w).imp (fun x hx => ?_) id hrest
      obtain ⟨i1, i2, i3, s', i4, i5, i6⟩ := hx
      exact ⟨by omega, fun B hB hp => i2 B hB (by omega), i3, s', i4, i5.cons _, fun hw hs nq qexp rexp hi =>
        i6 (fun x hx => hw x (List.mem_cons_of_mem _ hx)) (by omega) nq qexp rexp (hi1 hw hs nq qexp rexp hi)⟩
    · have s := h1.1 rfl
      refine (ih p1 (c + 1) (w ++ [(r, now)])).imp (fun x hx => ?_) id hrest
      obtain ⟨i1, i2, i3, s', i4, i5, i6⟩ := hx
      exact ⟨by omega, fun B hB hp => i2 B hB (by omega), by simp at i3; omega, (r, now) :: s', by simp [i4],
        i5.cons_cons _, fun hw hs nq qexp rexp hi => by
          simpa using i6 (fun x hx => hw x (List.mem_cons_of_mem _ hx)) s.2 nq qexp _ (hi1 hw hs nq qexp rexp hi)⟩

theorem writeAuthorities_eq (rs : List RecIn) : ∀ (p : OutPacket) (c : Nat) (w : List RecIn),
    writeAuthorities p c w rs =
      (writeAnswers p c (w.map (·, 0)) (rs.map (·, 0))).map fun x => (x.1, x.2.1, x.2.2.map (·.1)) := by
  induction rs with
  | nil => intro p c w; simp [writeAuthorities, writeAnswers, Res.map, Function.comp_def]
  | cons r rs ih =>
    intro p c w
    rw [writeAuthorities, List.map_cons, writeAnswers]
    cases p.writeRecord r 0 with
    | ok x => obtain ⟨p', b⟩ := x; cases b <;> simp [ih]
    | err => rfl
    | panic => rfl

/-- expected records of a packet, in wire order -/
def ghostRecs (g : Ghost) : List Ref.Record :=
  g.an.map (fun a => expRec a.1 a.2) ++ (g.au.map (expRec · 0) ++ g.ad.map (expRec · 0))

theorem header_parse (p p' : OutPacket) (g : Ghost) (id flags qc anc auc adc : Nat)
    (h : p.writeHeader id flags qc anc auc adc = .ok p')
    (hi : Inv p g.qs.length (g.qs.map expQ) (ghostRecs g)) (hs : p.data.size ≤ MAX_MSG_ABSOLUTE)
    (hq : qc % 65536 = g.qs.length % 65536) (ha : anc = g.an.length) (hu : auc = g.au.length)
    (hd : adc = g.ad.length) :
    Ref.parse p'.data = some
      { id := id % 65536, flags := flags % 65536, questions := g.qs.map expQ,
        answers := g.an.map (fun a => expRec a.1 a.2), authorities := g.au.map (expRec · 0),
        additionals := g.ad.map (expRec · 0) } := by
  obtain ⟨h2, body, wi⟩ := hi
  simp only [MAX_MSG_ABSOLUTE] at hs
  obtain ⟨hsz, hh, hpre⟩ := (writeHeader_run _ _ _ _ _ _ _).of_ok h
  obtain ⟨H', hH', hd'⟩ := hpre _ body.toArray wi.data new_size
  obtain ⟨o1, m1, m2⟩ := (wi.sound H' (hH'.trans new_size.symm) fun _ he => (nomatch he)).2 #[]
  rw [Array.append_empty, ← hd', hH'] at m1 m2
  rw [ghostRecs, List.length_append, List.length_append] at m2
  obtain ⟨o2, r1, r2⟩ := Ref.readMany_split _ _ _ _ _ _ m2
  obtain ⟨o3, r3, r4⟩ := Ref.readMany_split _ _ _ _ _ _ r2
  simp only [ghostRecs, List.length_append, List.length_map] at r1 r3 r4 h2
  have c1 : qc % 65536 = g.qs.length := by rw [hq]; apply Nat.mod_eq_of_lt; omega
  have c2 : anc % 65536 = g.an.length := by rw [ha]; apply Nat.mod_eq_of_lt; omega
  have c3 : auc % 65536 = g.au.length := by rw [hu]; apply Nat.mod_eq_of_lt; omega
  have c4 : adc % 65536 = g.ad.length := by rw [hd]; apply Nat.mod_eq_of_lt; omega
  have hend : 12 + body.length = p'.data.size := by rw [hsz, wi.data]; simp
  unfold Ref.parse
  rw [hh.id, hh.flags, hh.qc, hh.anc, hh.auc, hh.adc, c1, c2, c3, c4]
  simp only [m1, r1, r3, r4, hend, if_true]

/-- what an RFC 1035 reader must return for a finished packet that carries `g` -/
def expMsg (o : OutMsg) (id : Nat) (tc : Bool) (g : Ghost) : Ref.Msg :=
  { id := id % 65536, flags := (if tc then o.flags ||| FLAGS_TC else o.flags) % 65536,
    questions := g.qs.map expQ, answers := g.an.map (fun a => expRec a.1 a.2),
    authorities := g.au.map (expRec · 0), additionals := g.ad.map (expRec · 0) }

/-- a finished packet; `W`: the message is in the domain of the round trip -/
structure PktOK (o : OutMsg) (id B : Nat) (W : Prop) (tc : Bool) (p : Packet) : Prop where
  counts : CountsOK p
  lo : 12 ≤ p.data.size
  hi : p.data.size ≤ B
  hid : Ref.u16 p.data 0 = some (id % 65536)
  flags : Ref.u16 p.data 2 = some ((if tc then o.flags ||| FLAGS_TC else o.flags) % 65536)
  parse : W → Ref.parse p.data = some (expMsg o id tc p.ghost)

structure StInv (B : Nat) (W : Prop) (st : LoopSt) : Prop where
  lo : 12 ≤ st.packet.data.size
  hi : st.packet.data.size ≤ B
  qc : st.qc % 65536 = st.ghost.qs.length % 65536
  anc : st.anc = st.ghost.an.length
  auc : st.auc = st.ghost.au.length
  adc : st.adc = st.ghost.ad.length
  parse : W → st.packet.data.size ≤ MAX_MSG_ABSOLUTE ∧
    Inv st.packet st.ghost.qs.length (st.ghost.qs.map expQ) (ghostRecs st.ghost)

variable {o : OutMsg} {id B : Nat} {W : Prop}

theorem PktOK.of_header {tc : Bool} {st : LoopSt} {p' : OutPacket} (inv : StInv B W st)
    (h : st.packet.writeHeader id (if tc then o.flags ||| FLAGS_TC else o.flags) st.qc st.anc st.auc st.adc = .ok p') :
    PktOK o id B W tc ⟨p'.data, st.ghost⟩ := by
  obtain ⟨hs, hh, _⟩ := (writeHeader_run _ _ _ _ _ _ _).of_ok h
  exact ⟨⟨by rw [hh.qc, inv.qc], by rw [hh.anc, inv.anc], by rw [hh.auc, inv.auc], by rw [hh.adc, inv.adc]⟩,
    by rw [hs]; exact inv.lo, by rw [hs]; exact inv.hi, hh.id, hh.flags, fun w =>
      header_parse _ _ st.ghost _ _ _ _ _ _ h (inv.parse w).2 (inv.parse w).1 inv.qc inv.anc inv.auc inv.adc⟩

theorem finish_run (st : LoopSt) (inv : StInv B W st) :
    (finish o id st).Spec (fun ps => ∃ last, ps = st.done ++ [last] ∧ last.ghost = st.ghost ∧
      PktOK o id B W false last) False False := by
  unfold finish
  refine (writeHeader_run st.packet id o.flags st.qc st.anc st.auc st.adc).elimEq (fun p hp _ => ?_) False.elim
    fun hc => hc inv.lo
  exact ⟨_, rfl, rfl, .of_header inv hp⟩

theorem writeAdditionals_run (hB : MAX_MSG_ABSOLUTE ≤ B) (rs : List RecIn) (hwf : W → ∀ r ∈ rs, RecWF r 0) :
    ∀ st : LoopSt, StInv B W st → (∀ p ∈ st.done, PktOK o id B W true p) →
    (writeAdditionals o id st rs).Spec (fun ps =>
      (∃ init last, ps = init ++ [last] ∧ (∀ p ∈ init, PktOK o id B W true p) ∧ PktOK o id B W false last) ∧
      ps.flatMap (·.ghost.qs) = st.done.flatMap (·.ghost.qs) ++ st.ghost.qs ∧
      ps.flatMap (·.ghost.an) = st.done.flatMap (·.ghost.an) ++ st.ghost.an ∧
      ps.flatMap (·.ghost.au) = st.done.flatMap (·.ghost.au) ++ st.ghost.au ∧
      ∃ s, ps.flatMap (·.ghost.ad) = st.done.flatMap (·.ghost.ad) ++ st.ghost.ad ++ s ∧ s.Sublist rs)
      False (¬ ∀ r ∈ rs, RecOK r) := by
  induction rs with
  | nil =>
    intro st inv hd
    refine (finish_run st inv).imp (fun ps hps => ?_) False.elim False.elim
    obtain ⟨last, rfl, hg, hl⟩ := hps
    exact ⟨⟨st.done, last, rfl, hd, hl⟩, by simp [hg], by simp [hg], by simp [hg], [], by simp [hg], .slnil⟩
  | cons r rest ih =>
    intro st inv hd
    have ih := ih fun w x hx => hwf w x (List.mem_cons_of_mem _ hx)
    have hrest : (¬ ∀ a ∈ rest, RecOK a) → ¬ ∀ a ∈ r :: rest, RecOK a :=
      fun hc hall => hc fun x hx => hall x (List.mem_cons_of_mem _ hx)
    have hr : (¬ (RecOK r ∧ ((0 : Nat) = 0 ∨ 0 ≤ expires r))) → ¬ ∀ a ∈ r :: rest, RecOK a :=
      fun hc hall => hc ⟨hall r List.mem_cons_self, Or.inl rfl⟩
    have lo := inv.lo
    have hi := inv.hi
    rw [writeAdditionals]
    refine (writeRecord_run st.packet r 0).elimEq (fun ⟨p', b⟩ e1 h1 => ?_) False.elim hr
    dsimp only at h1
    have hp' := fun w => Inv_record _ _ _ _ _ r 0 b (inv.parse w).2 e1 (hwf w r List.mem_cons_self) (inv.parse w).1
    cases b
    · have s1 := h1.2 rfl
      dsimp only
      have inv' : StInv B W { st with packet := p' } :=
        ⟨by dsimp only; omega, by dsimp only; omega, inv.qc, inv.anc, inv.auc, inv.adc, fun w =>
          ⟨by have := (inv.parse w).1; dsimp only; omega, hp' w⟩⟩
      refine .ite (fun _ => ?_) fun _ => ?_
      · refine (finish_run _ inv').imp (fun ps hps => ?_) False.elim False.elim
        obtain ⟨last, rfl, hg, hl⟩ := hps
        dsimp only at hg
        exact ⟨⟨st.done, last, rfl, hd, hl⟩, by simp [hg], by simp [hg], by simp [hg], [], by simp [hg], List.nil_sublist _⟩
      · refine (writeHeader_run p' id (o.flags ||| FLAGS_TC) st.qc st.anc st.auc st.adc).elimEq (fun full hf _ => ?_)
          False.elim fun hc => absurd (by omega) hc
        dsimp only
        refine (writeRecord_run OutPacket.new r 0).elimEq (fun ⟨p2, b⟩ e2 h2 => ?_) False.elim hr
        simp only [new_size, MAX_MSG_ABSOLUTE] at h2
        dsimp only
        have hp2 : 12 ≤ p2.data.size ∧ p2.data.size ≤ 8972 := by
          cases b
          · have := h2.2 rfl; omega
          · have := h2.1 rfl; omega
        refine (ih _ ⟨hp2.1, Nat.le_trans hp2.2 hB, by simp, rfl, rfl, by cases b <;> simp, fun w => ⟨hp2.2, ?_⟩⟩
          fun p hp => ?_).imp (fun ps hps => ?_) False.elim hrest
        · have := Inv_record _ _ 0 [] [] r 0 b Inv_new e2 (hwf w r List.mem_cons_self) (by simp [MAX_MSG_ABSOLUTE])
          cases b <;> simpa [ghostRecs] using this
        · rcases List.mem_append.mp hp with hp | hp
          · exact hd p hp
          · cases List.mem_singleton.mp hp
            exact .of_header (st := { st with packet := p' }) inv' hf
        · obtain ⟨hpk, i1, i2, i3, s, i4, i5⟩ := hps
          simp only [List.flatMap_append, List.flatMap_cons, List.flatMap_nil, List.append_nil] at i1 i2 i3 i4
          refine ⟨hpk, by simpa using i1, by simpa using i2, by simpa using i3, ?_⟩
          cases b
          · exact ⟨s, by simpa using i4, i5.cons _⟩
          · exact ⟨r :: s, by simpa using i4, i5.cons_cons _⟩
    · have s1 := h1.1 rfl
      dsimp only
      refine (ih _ ?_ ?_).imp (fun ps hps => ?_) False.elim hrest
      · exact ⟨by dsimp only; omega, by dsimp only; omega, inv.qc, inv.anc, inv.auc, by simp [inv.adc], fun w =>
          ⟨s1.2, by simpa [ghostRecs] using hp' w⟩⟩
      · exact hd
      · obtain ⟨hpk, i1, i2, i3, s, i4, i5⟩ := hps
        exact ⟨hpk, i1, i2, i3, r :: s, by simp only [] at i4; simp [i4], i5.cons_cons _⟩

/-- The domain of the round-trip theorem: names of at most 255 octets, 16-bit types,
    15-bit classes, 32-bit TTLs (for `now ≠ 0`: the remaining TTL), RDATA of the kind that
    belongs to the record type.  (Labels of at most 63 bytes are implied by the encoder
    not panicking.) -/
def MsgWF (o : OutMsg) : Prop :=
  (∀ q ∈ o.questions, QWF q) ∧ (∀ a ∈ o.answers, RecWF a.1 a.2) ∧
  (∀ r ∈ o.authorities, RecWF r 0) ∧ (∀ r ∈ o.additionals, RecWF r 0)

theorem toPackets_run (o : OutMsg) :
    (toPackets o).Spec (fun ps =>
      (∃ init last, ps = init ++ [last] ∧
        (∀ p ∈ init, PktOK o (wireId o) (max MAX_MSG_ABSOLUTE (questionsSize o))
          (MsgWF o ∧ questionsSize o ≤ MAX_MSG_ABSOLUTE) true p) ∧
        PktOK o (wireId o) (max MAX_MSG_ABSOLUTE (questionsSize o))
          (MsgWF o ∧ questionsSize o ≤ MAX_MSG_ABSOLUTE) false last) ∧
      ps.flatMap (·.ghost.qs) = o.questions ∧
      (ps.flatMap (·.ghost.an)).Sublist o.answers ∧
      (ps.flatMap (·.ghost.au)).Sublist o.authorities ∧
      (ps.flatMap (·.ghost.ad)).Sublist o.additionals) False (¬ MsgOK o) := by
  unfold toPackets questionsSize
  refine (writeQuestions_run o.questions OutPacket.new).elimEq (fun p0 e0 h0 => ?_) False.elim fun hc hok => hc hok.1
  dsimp only
  refine (writeAnswers_run o.answers p0 0 []).elimEq (fun ⟨p1, anc, an⟩ e1 h1 => ?_) False.elim
    fun hc hok => hc hok.2.1
  dsimp only at h1 ⊢
  rw [writeAuthorities_eq]
  refine (writeAnswers_run (o.authorities.map (·, 0)) p1 0 (List.map (·, 0) [])).elimEq
    (fun ⟨p2, auc, au⟩ e2 h2 => ?_) False.elim fun hc hok => hc fun a ha => by
      obtain ⟨r, hr, rfl⟩ := List.mem_map.mp ha
      exact ⟨hok.2.2.1 r hr, Or.inl rfl⟩
  dsimp only [Res.map] at h2 ⊢
  obtain ⟨a1, a2, a3, sa, a4, a5, a6⟩ := h1
  obtain ⟨b1, b2, b3, sb, b4, b5, b6⟩ := h2
  have hB := Nat.le_max_left MAX_MSG_ABSOLUTE p0.data.size
  simp only [new_size, List.length_nil, Nat.add_zero, Nat.zero_add, List.nil_append, List.map_nil] at h0 a3 b3 a4 b4
  subst a4 b4
  have hz : au.map ((expRec · 0) ∘ (·.1)) = au.map (fun a => expRec a.1 a.2) :=
    List.map_congr_left fun a ha => by
      obtain ⟨r, _, rfl⟩ := List.mem_map.mp (b5.subset ha)
      rfl
  refine (writeAdditionals_run (W := MsgWF o ∧ p0.data.size ≤ MAX_MSG_ABSOLUTE) hB o.additionals (fun w => w.1.2.2.2) _
    ⟨?_, ?_, by simp, ?_, ?_, rfl, fun w => ?_⟩ (by simp)).imp (fun ps hps => ?_) False.elim fun hc hok => hc hok.2.2.2
  · have := h0.1; dsimp only; omega
  · exact b2 _ hB (a2 _ hB (Nat.le_max_right _ _))
  · exact a3
  · simpa using b3
  · have za := a2 _ (Nat.le_refl _) w.2
    have ib := b6 (by simpa using w.1.2.2.1) za _ _ _
      (a6 w.1.2.1 w.2 _ _ _ (h0.2 w.1.1 w.2 0 [] Inv_new))
    exact ⟨b2 _ (Nat.le_refl _) za, by simpa [ghostRecs, hz] using ib⟩
  · obtain ⟨hpk, g1, g2, g3, s, g4, g5⟩ := hps
    simp only [List.flatMap_nil, List.nil_append] at g1 g2 g3 g4
    exact ⟨hpk, g1, by rw [g2]; exact a5, by rw [g3]; simpa [Function.comp_def] using b5.map (·.1),
      by rw [g4]; simpa using g5⟩

instance (q : QIn) : Decidable (QWF q) := by unfold QWF; infer_instance
instance (ty : Nat) (rd : Wire.RData) : Decidable (RDataWF ty rd) := by
  cases rd <;> simp only [RDataWF] <;> infer_instance
instance (r : RecIn) (now : Nat) : Decidable (RecWF r now) := by unfold RecWF; infer_instance
instance (o : OutMsg) : Decidable (MsgWF o) := by unfold MsgWF; infer_instance

/-- messages that the reference reader must return for a list of packets: TC on all but the last -/
def expMsgs (o : OutMsg) : List Packet → List Ref.Msg
  | [] => []
  | [p] => [expMsg o (wireId o) false p.ghost]
  | p :: rest => expMsg o (wireId o) true p.ghost :: expMsgs o rest

theorem expMsgs_append (o : OutMsg) (init : List Packet) (last : Packet) :
    expMsgs o (init ++ [last]) =
      init.map (fun p => expMsg o (wireId o) true p.ghost) ++ [expMsg o (wireId o) false last.ghost] := by
  induction init with
  | nil => simp [expMsgs]
  | cons p rest ih =>
    cases hr : rest ++ [last] with
    | nil => simp at hr
    | cons q t =>
      simp only [List.cons_append, hr, expMsgs, List.map_cons]
      rw [← hr, ih]

theorem allSome_map_some {α : Type} (ms : List α) : allSome (ms.map some) = some ms := by
  induction ms with
  | nil => rfl
  | cons m rest ih => simp [allSome, ih]

theorem leftOut_of_sublist {α : Type} [DecidableEq α] (l : List α) :
    ∀ s : List α, s.Sublist l → (leftOut s l).isSome = true := by
  intro s
  fun_induction leftOut s l
  case case1 => exact fun _ => rfl
  case case2 => exact fun h => nomatch h
  case case3 ih => exact fun h => ih (List.cons_sublist_cons.mp h)
  case case4 hne ih =>
    intro h
    cases h with
    | cons _ h' => simpa using ih h'
    | cons_cons _ _ => exact absurd rfl hne

end Mdns.Enc

/-! The sample message of Props/C02 and its bytes, computed once: declared here in `Mdns.Props.C02`. -/
namespace Mdns.Props.C02
open Mdns Mdns.Enc

/-- `a.b.` -/
def nAB : BList := [0x61, 0x2E, 0x62, 0x2E]
/-- `c\.d.a.b.`: the first label is `c.d` -/
def nCAB : BList := [0x63, 0x5C, 0x2E, 0x64, 0x2E, 0x61, 0x2E, 0x62, 0x2E]

/-- Example message used for non-vacuity: a query with one question `a.b.`, one PTR known
    answer `a.b.` -> `c\.d.a.b.` (owner and target are written as compression pointers) and
    one additional A record. -/
def ex1 : OutMsg :=
  (((OutMsg.new 0 7).addQuestion nAB 12).addAnswerAtTime (mkRec nAB 12 1 120 1000 (.ptr nCAB)) 0).addAdditional
    (mkRec nCAB 1 0x8001 4500 1000 (.a [10, 0, 0, 1]))

theorem ex1_encode : encode ex1 = .ok [#[0, 0, 0, 0, 0, 1, 0, 1, 0, 0, 0, 1, 1, 97, 1, 98, 0, 0, 12, 0, 1, 192, 12, 0, 12, 0, 1,
    0, 0, 0, 120, 0, 6, 3, 99, 46, 100, 192, 12, 192, 33, 0, 1, 128, 1, 0, 0, 17, 148, 0, 4, 10, 0, 0, 1]] := by decide +kernel

end Mdns.Props.C02
