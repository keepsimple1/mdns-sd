import Mdns.Spec.RefParse
/-
  Lemmas about the reference reader: a successful read is stable under appending bytes and
  under adding fuel (`bytesAt_append`, `u16_append`, `readNameFuel_mono`); runs of entries
  (`readMany`) compose and split.
-/
namespace Mdns.Ref

theorem getElem?_append_of_some (d e : Bytes) {i : Nat} {b : UInt8} (h : d[i]? = some b) : (d ++ e)[i]? = some b := by
  have hi : i < d.size := by
    rcases Nat.lt_or_ge i d.size with x | x
    · exact x
    · simp [Array.getElem?_eq_none x] at h
  rw [Array.getElem?_append_left hi, h]

theorem bytesAt_eq_some (d : Bytes) (off n : Nat) (l : List UInt8) :
    bytesAt d off n = some l ↔ off + n ≤ d.size ∧ l = (d.toList.drop off).take n := by
  unfold bytesAt
  split
  · rename_i h
    simp only [Option.some.injEq, h, true_and]
    rw [Array.toList_extract]
    simp [List.extract, eq_comm]
  · rename_i h
    simp [h]

theorem bytesAt_append (d e : Bytes) (off n : Nat) (l : List UInt8) (h : bytesAt d off n = some l) :
    bytesAt (d ++ e) off n = some l := by
  rw [bytesAt_eq_some] at h ⊢
  obtain ⟨h1, h2⟩ := h
  refine ⟨by simp; omega, ?_⟩
  rw [h2]
  simp only [Array.toList_append]
  rw [List.drop_append_of_le_length (by simp; omega)]
  rw [List.take_append_of_le_length (by simp; omega)]

theorem u16_append (d e : Bytes) (off v : Nat) (h : u16 d off = some v) : u16 (d ++ e) off = some v := by
  unfold u16 at h ⊢
  split at h
  · rename_i h1 h2
    rw [getElem?_append_of_some d e h1, getElem?_append_of_some d e h2]
    exact h
  · cases h

theorem readNameFuel_mono (d e : Bytes) (f f' off : Nat) (r : Name × Nat)
    (h : readNameFuel d f off = some r) (hf : f ≤ f') : readNameFuel (d ++ e) f' off = some r := by
  fun_induction readNameFuel d f off generalizing f' r
  all_goals try (simp at h; done)
  all_goals obtain ⟨g, rfl⟩ : ∃ g, f' = g + 1 := ⟨f' - 1, by omega⟩
  case case3 hb =>
    simp only [readNameFuel, getElem?_append_of_some d e hb, if_true]
    exact h
  case case4 hb hne hlt _ _ _ hr hl ih =>
    simp only [readNameFuel, getElem?_append_of_some d e hb, hne, hlt, if_true, if_false,
      bytesAt_append d e _ _ _ hl, ih g _ hr (by omega)]
    exact h
  case case7 hb hne h64 h192 _ hlo hlt _ _ hr ih =>
    simp only [readNameFuel, getElem?_append_of_some d e hb, hne, h64, h192, if_true, if_false,
      getElem?_append_of_some d e hlo, hlt, ih g _ hr (by omega)]
    exact h

theorem readMany_length {α : Type} (f : Nat → Option (α × Nat)) (n off : Nat) (xs : List α) (e : Nat)
    (h : readMany f n off = some (xs, e)) : xs.length = n := by
  fun_induction readMany f n off generalizing xs e
  case case1 => cases h; rfl
  case case3 hr ih => cases h; exact congrArg (· + 1) (ih _ _ hr)
  all_goals cases h

theorem readMany_append {α : Type} (f : Nat → Option (α × Nat)) (n m off o e : Nat) (xs ys : List α)
    (h1 : readMany f n off = some (xs, o)) (h2 : readMany f m o = some (ys, e)) :
    readMany f (n + m) off = some (xs ++ ys, e) := by
  fun_induction readMany f n off generalizing xs
  case case1 => cases h1; simpa using h2
  case case3 hf _ _ hr ih =>
    cases h1
    rw [Nat.succ_add, readMany]
    simp only [hf, ih _ hr, List.cons_append]
  all_goals cases h1

theorem readMany_snoc {α : Type} (f : Nat → Option (α × Nat)) (n off o e : Nat) (xs : List α) (x : α)
    (h1 : readMany f n off = some (xs, o)) (h2 : f o = some (x, e)) :
    readMany f (n + 1) off = some (xs ++ [x], e) := by
  apply readMany_append f n 1 off o e xs [x] h1
  simp [readMany, h2]

/-- a run of `n + m` entries splits into a run of `n` and a run of `m` -/
theorem readMany_split {α : Type} (f : Nat → Option (α × Nat)) (m e : Nat) (xs ys : List α) :
    ∀ off, readMany f (xs.length + m) off = some (xs ++ ys, e) →
    ∃ o, readMany f xs.length off = some (xs, o) ∧ readMany f m o = some (ys, e) := by
  induction xs with
  | nil => exact fun off h => ⟨off, rfl, by simpa using h⟩
  | cons x xs ih =>
    intro off h
    rw [List.length_cons, Nat.succ_add, readMany] at h
    split at h
    · cases h
    · split at h
      · rename_i hf _ _ _ hr
        cases h
        obtain ⟨o, i1, i2⟩ := ih _ hr
        exact ⟨o, by simp [readMany, hf, i1], i2⟩
      · cases h

end Mdns.Ref
