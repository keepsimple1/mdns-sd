import Mdns.Model.Delay
/-
  The back-off arithmetic of C19 on `Model/Delay`: the closed form of the delay sequence
  (`delay n = min (2^n) 3600`), that one execution never overflows (`step_ok`), and the gaps
  of `k` executions (`gapsFrom_delay`).
-/
namespace Mdns.Delay
open Mdns

theorem delay_closed (n : Nat) : delay n = min (2 ^ n) MAX_DELAY := by
  induction n with
  | zero => simp [delay, MAX_DELAY]
  | succ n ih =>
    simp only [delay, nextDelay, ih, Nat.pow_succ, MAX_DELAY]
    omega

theorem delay_le (n : Nat) : delay n ≤ MAX_DELAY := by
  rw [delay_closed]
  exact Nat.min_le_right _ _

theorem delay_pos (n : Nat) : 1 ≤ delay n := by
  rw [delay_closed]
  have : 1 ≤ 2 ^ n := Nat.one_le_two_pow
  simp only [MAX_DELAY]
  omega

theorem step_ok (d : Nat) (h : d ≤ MAX_DELAY) : step d = .ok (d * 1000, nextDelay d) := by
  unfold step
  simp only [MAX_DELAY, U32_MAX] at *
  have h1 : ¬ d * 1000 > 4294967295 := by omega
  have h2 : ¬ d * 2 > 4294967295 := by omega
  simp [h1, h2, nextDelay, MAX_DELAY]

theorem gapsFrom_delay : ∀ (k n : Nat),
    gapsFrom k (delay n) = .ok ((List.range k).map fun i => delay (n + i) * 1000)
  | 0, _ => by simp [gapsFrom]
  | k + 1, n => by
    unfold gapsFrom
    rw [step_ok _ (delay_le n)]
    simp only
    have : nextDelay (delay n) = delay (n + 1) := rfl
    rw [this, gapsFrom_delay k (n + 1)]
    have e : ∀ i, n + 1 + i = n + (i + 1) := fun i => by omega
    simp only [List.range_succ_eq_map, List.map_cons, List.map_map, Nat.add_zero, Function.comp_def, e]

end Mdns.Delay
