import Mdns.Lemmas.ResponderTimers
/-
  C12 on the responder model, daemon part: through every phase of `Responder.iter` the timers
  cover the probes of every interface registry, the queued re-runs and the interface check.
-/
namespace Mdns.Responder
open Mdns

/-- The coverage of the responder's time-driven work in the middle of an iteration.  `bp`, `br`,
    `bi` are the bounds below which a probe step / a re-run / the interface check may be
    uncovered because the iteration has popped its timer and has not looked at it yet
    (0 before `pop_timers_till`, `now + 1` after it, 0 again after the phase that does the work). -/
structure Mid (bp br bi : Nat) (s : State) : Prop where
  probes : ∀ i ∈ s.intfs, RCov s.timers bp (s.registry i.index)
  reruns : ∀ r ∈ s.reruns, r.next ∈ s.timers ∨ r.next < br
  ipcheck : s.nextIpCheck ≠ 0 → s.nextIpCheck ∈ s.timers ∨ s.nextIpCheck < bi

/-- every interface registry has handed its `new_timers` over -/
def Drained (s : State) : Prop := ∀ i ∈ s.intfs, (s.registry i.index).newTimers = []

/-- what every step of an iteration other than `pop_timers_till` keeps (the re-run loop and
    `probing_handler` included): the interfaces and the next interface check; the timers that
    are there; re-runs are only queued with a timer; every registry stays covered, whatever the
    bound -/
structure Keeps (s s' : State) : Prop where
  intfs : s'.intfs = s.intfs
  ip : s'.nextIpCheck = s.nextIpCheck
  timers : ∀ t ∈ s.timers, t ∈ s'.timers
  reruns : ∀ r ∈ s'.reruns, r ∈ s.reruns ∨ r.next ∈ s'.timers
  regs : ∀ idx b, RCov s.timers b (s.registry idx) → RCov s'.timers b (s'.registry idx)

theorem Keeps.refl (s : State) : Keeps s s := ⟨rfl, rfl, fun _ h => h, fun _ h => Or.inl h, fun _ _ h => h⟩

theorem Keeps.trans {a b c : State} (h1 : Keeps a b) (h2 : Keeps b c) : Keeps a c :=
  ⟨h2.intfs.trans h1.intfs, h2.ip.trans h1.ip, fun t ht => h2.timers t (h1.timers t ht),
   fun r hr => (h2.reruns r hr).elim (fun h => (h1.reruns r h).elim Or.inl (fun h' => Or.inr (h2.timers _ h'))) Or.inr,
   fun idx b h => h2.regs idx b (h1.regs idx b h)⟩

theorem Mid.keeps {bp br bi : Nat} {s s' : State} (h : Mid bp br bi s) (k : Keeps s s') : Mid bp br bi s' := by
  refine ⟨?_, ?_, ?_⟩
  · intro i hi
    exact k.regs i.index bp (h.probes i (k.intfs ▸ hi))
  · intro r hr
    rcases k.reruns r hr with h1 | h1
    · exact (h.reruns r h1).elim (fun h2 => Or.inl (k.timers _ h2)) Or.inr
    · exact Or.inl h1
  · intro hne
    rw [k.ip] at hne ⊢
    exact (h.ipcheck hne).elim (fun h2 => Or.inl (k.timers _ h2)) Or.inr

theorem Keeps.set {s s' : State} (k : Nat) {r' : Registry} (hi : s'.intfs = s.intfs) (hip : s'.nextIpCheck = s.nextIpCheck)
    (hregs : s'.registries = aset k r' s.registries) (ht : ∀ t ∈ s.timers, t ∈ s'.timers)
    (hr : ∀ r ∈ s'.reruns, r ∈ s.reruns ∨ r.next ∈ s'.timers)
    (hk : ∀ b, RCov s.timers b (s.registry k) → RCov s'.timers b r') : Keeps s s' := by
  refine ⟨hi, hip, ht, hr, fun idx b h => ?_⟩
  rw [registry_congr (s := s.setRegistry k r') hregs]
  by_cases e : idx = k
  · subst e
    rw [registry_setRegistry_self]
    exact hk b h
  · rw [registry_setRegistry_ne _ _ _ _ e]
    exact h.sup ht

theorem Keeps.of_eq {s s' : State} (hi : s'.intfs = s.intfs) (hip : s'.nextIpCheck = s.nextIpCheck)
    (hregs : s'.registries = s.registries) (ht : s'.timers = s.timers) (hr : s'.reruns = s.reruns) : Keeps s s' :=
  ⟨hi, hip, fun _ h => ht ▸ h, fun _ h => Or.inl (hr ▸ h), fun idx b h => by rw [registry_congr hregs, ht]; exact h⟩

theorem queued_covered {α} (rs : List ReRun) (ts : List Nat) (l : List α) (f : α → ReRun) (t : Nat) (hf : ∀ a, (f a).next = t) :
    ∀ r ∈ rs ++ l.map f, r ∈ rs ∨ r.next ∈ ts ++ l.map (fun _ => t) := by
  intro r hr
  rcases List.mem_append.mp hr with hr | hr
  · exact Or.inl hr
  · obtain ⟨a, ha, rfl⟩ := List.mem_map.mp hr
    exact Or.inr (List.mem_append_right _ (List.mem_map.mpr ⟨a, ha, (hf a).symm⟩))

/-! ### ingress -/

-- `X_tkeeps`: `X` is a `Keeps` step (coverage by the timers); `X_keeps` names the `Watch` lemmas of ResponderSched
theorem handleQuery_tkeeps (s : State) (now : Nat) (p : RxPkt) (i : MyIntf) : Keeps s (handleQuery s now p i).1 := by
  unfold handleQuery
  split
  · exact Keeps.refl s
  · rename_i reg hreg
    have hk : Keeps s ({ (s.setRegistry p.ifIdx (p.msg.questions.foldl (tiebreak now p.msg.authorities) reg)) with
        timers := s.timers ++ tiebreakTimers now p.msg.authorities reg p.msg.questions } : State) :=
      Keeps.set p.ifIdx rfl rfl rfl mem_append_left' (fun _ h => Or.inl h) (fun b h =>
        tiebreakAll_cov now p.msg.authorities b p.msg.questions s.timers reg (registry_of_lookup hreg ▸ h))
    simp only []
    split <;> exact hk

theorem handleResponse_tkeeps (s : State) (now jitter : Nat) (p : RxPkt) : Keeps s (handleResponse s now jitter p) := by
  unfold handleResponse
  split
  · exact Keeps.refl s
  · rename_i reg hreg
    have hcov := fun (b : Nat) (h : RCov s.timers b reg) =>
      foldl_inv (fun (x : Registry × List Nat) => RCov (s.timers ++ x.2) b x.1) _ p.msg.answers (reg, [])
        (by simpa using h) (fun x a _ hx => conflictOnAnswer_cov now jitter x a hx)
    rcases hf : p.msg.answers.foldl (conflictOnAnswer now jitter) (reg, []) with ⟨reg', timers⟩
    rw [hf] at hcov
    exact Keeps.set p.ifIdx rfl rfl rfl mem_append_left' (fun _ h => Or.inl h) (fun b h => hcov b (registry_of_lookup hreg ▸ h))

theorem handleRead_tkeeps (now jitter : Nat) (acc : State × List Out) (p : RxPkt) : Keeps acc.1 (handleRead now jitter acc p).1 := by
  unfold handleRead
  split
  · exact Keeps.refl _
  · rename_i i _
    split
    · exact Keeps.refl _
    · split
      · exact handleQuery_tkeeps acc.1 now p i
      · exact handleResponse_tkeeps acc.1 now jitter p

theorem foldl_tkeeps {α} (f : State × List Out → α → State × List Out) (l : List α) (acc : State × List Out)
    (h : ∀ a x, Keeps a.1 (f a x).1) : Keeps acc.1 (l.foldl f acc).1 :=
  foldl_inv (fun (a : State × List Out) => Keeps acc.1 a.1) f l acc (Keeps.refl _) (fun a x _ ha => ha.trans (h a x))

/-! ### `pop_timers_till` -/

theorem pop_mid {s : State} (now : Nat) (h : Mid 0 0 0 s) :
    Mid (now + 1) (now + 1) (now + 1) ({ s with timers := s.timers.filter (· > now) } : State) := by
  -- a timer stays, or it was due
  have hf : ∀ t, t ∈ s.timers ∨ t < 0 → t ∈ s.timers.filter (· > now) ∨ t < now + 1 := by
    intro t ht
    by_cases hlt : t > now
    · exact Or.inl (List.mem_filter.mpr ⟨ht.resolve_right (Nat.not_lt_zero t), decide_eq_true hlt⟩)
    · exact Or.inr (Nat.lt_succ_of_le (Nat.le_of_not_gt hlt))
  refine ⟨fun i hi e he => ?_, fun r hr => hf _ (h.reruns r hr), fun hne => hf _ (h.ipcheck hne)⟩
  rcases h.probes i hi e he with h1 | h1 | h1
  · exact (hf _ (Or.inl h1)).imp id Or.inr
  · exact Or.inr (Or.inl h1)
  · exact absurd h1 (Nat.not_lt_zero _)

/-! ### register -/

/-- the invariant of the loop of `send_unsolicited_response` that started in `s` -/
structure UnsolKeeps (s : State) (u : Unsol) : Prop where
  keeps : Keeps s u.state
  reruns : u.state.reruns = s.reruns

theorem unsolOnIntf_tkeeps (s : State) (now jitter : Nat) (u : Unsol) (i : MyIntf) (h : UnsolKeeps s u) :
    UnsolKeeps s (unsolOnIntf now jitter u i) := by
  unfold unsolOnIntf
  simp only []
  split
  · exact ⟨h.keeps.trans (Keeps.set i.index rfl rfl rfl (fun _ ht => ht) (fun _ hr => Or.inl hr)
      (fun b hc => announce_pair_cov hc u.svc i now jitter)), h.reruns⟩
  · exact ⟨h.keeps.trans (Keeps.set i.index rfl rfl rfl mem_append_left' (fun _ hr => Or.inl hr)
      (fun b hc => drain_cov (announce_pair_cov hc u.svc i now jitter))), h.reruns⟩

theorem sendUnsolicited_tkeeps (s : State) (svc : Service) (now jitter : Nat) : Keeps s (sendUnsolicited s svc now jitter).state := by
  unfold sendUnsolicited
  have hu : UnsolKeeps s (s.intfs.foldl (unsolOnIntf now jitter) { state := s, svc := svc }) :=
    foldl_inv (fun (u : Unsol) => UnsolKeeps s u) _ _ _ ⟨Keeps.refl s, rfl⟩ (fun u i _ hu => unsolOnIntf_tkeeps s now jitter u i hu)
  simp only []
  exact hu.keeps.trans ⟨rfl, rfl, mem_append_left', queued_covered _ _ _ _ (now + 1000) (fun _ => rfl),
    fun idx b hc => hc.sup mem_append_left'⟩

theorem registerService_tkeeps (s : State) (svc : Service) (now jitter : Nat) : Keeps s (registerService s svc now jitter).1 := by
  unfold registerService
  split
  · unfold registerChecked
    exact (sendUnsolicited_tkeeps s (autoAddrs s svc) now jitter).trans (Keeps.of_eq rfl rfl rfl rfl rfl)
  · exact Keeps.refl s

/-! ### unregister -/

theorem purgeWaiting_tkeeps (s : State) (n : BList) :
    Keeps s (purgeWaiting s n) ∧ (purgeWaiting s n).timers = s.timers := by
  obtain ⟨R, hR⟩ := purgeWaiting_eq s n
  have ht : (purgeWaiting s n).timers = s.timers := by rw [hR]
  refine ⟨⟨by rw [hR], by rw [hR], fun _ h => ht ▸ h, fun r hr => Or.inl (by rw [hR] at hr; exact hr), fun idx b hc => ?_⟩, ht⟩
  rw [ht, purgeWaiting_registry]
  split
  · exact removeWaiting_cov hc n
  · exact hc

theorem execUnregister_tkeeps (s : State) (now : Nat) (name : BList) (ch : Nat) : Keeps s (execUnregister s now name ch).1 := by
  unfold execUnregister
  split
  · exact Keeps.refl s
  · rename_i svc _
    obtain ⟨hk, ht⟩ := purgeWaiting_tkeeps s svc.fullname
    simp only []
    refine ⟨hk.intfs, hk.ip, mem_append_left', queued_covered _ _ _ _ (now + 120) (fun _ => rfl), ?_⟩
    · intro idx b hc
      have := hk.regs idx b hc
      rw [ht] at this
      exact this.sup mem_append_left'

/-! ### commands -/

theorem execCommand_mid {bp br bi : Nat} (now jitter : Nat) (acc : State × List Out) (c : Command) (h : acc.1.stopped = true ∨ Mid bp br bi acc.1) :
    (execCommand now jitter acc c).1.stopped = true ∨ Mid bp br bi (execCommand now jitter acc c).1 := by
  unfold execCommand
  split
  · exact h
  · rename_i hrun
    have hm : Mid bp br bi acc.1 := h.resolve_left hrun
    cases c with
    | register svc => exact Or.inr (hm.keeps (registerService_tkeeps acc.1 svc now jitter))
    | unregister name ch => exact Or.inr (hm.keeps (execUnregister_tkeeps acc.1 now name ch))
    | monitor ch => exact Or.inr (hm.keeps (Keeps.of_eq rfl rfl rfl rfl rfl))
    | ipInterval ms => exact Or.inr (hm.keeps (Keeps.of_eq rfl rfl rfl rfl rfl))
    | exit ch => exact Or.inl rfl

/-! ### re-runs -/

theorem execRerun_tkeeps (now jitter : Nat) (acc : State × List Out) (r : ReRun) : Keeps acc.1 (execRerun now jitter acc r).1 := by
  cases r with
  | unregisterResend n pkt ifIdx v4 => exact Keeps.refl _
  | registerResend n fullname ifIdx =>
    rw [execRerun_registerResend]
    rcases execRegisterResend_cases acc.1 now jitter fullname ifIdx with h | ⟨svc, r0, i, _, hr0, _, h | ⟨_, h⟩⟩ <;> rw [h]
    · exact Keeps.refl _
    · exact Keeps.set ifIdx rfl rfl rfl (fun _ h => h) (fun _ h => Or.inl h)
        (fun b hc => announce_pair_cov (registry_of_lookup hr0 ▸ hc) svc i now jitter)
    · exact Keeps.set ifIdx rfl rfl rfl (fun _ h => h) (fun _ h => Or.inl h)
        (fun b hc => announce_pair_cov (registry_of_lookup hr0 ▸ hc) svc i now jitter)

theorem runReruns_mid {bp bi : Nat} (s : State) (now jitter : Nat) (h : Mid bp (now + 1) bi s) :
    Mid bp 0 bi (runReruns s now jitter).1 := by
  unfold runReruns
  have h0 : Mid bp 0 bi ({ s with reruns := s.reruns.filter (fun r => !decide (now ≥ r.next)) } : State) := by
    refine ⟨h.probes, ?_, h.ipcheck⟩
    intro r hr
    simp only [List.mem_filter, Bool.not_eq_eq_eq_not, Bool.not_true, decide_eq_false_iff_not] at hr
    rcases h.reruns r hr.1 with h1 | h1
    · exact Or.inl h1
    · omega
  have := foldl_inv (fun (a : State × List Out) => Mid bp 0 bi a.1) (execRerun now jitter)
    (s.reruns.filter (fun r => decide (now ≥ r.next)))
    (({ s with reruns := s.reruns.filter (fun r => !decide (now ≥ r.next)) } : State), []) h0
    (fun a r _ ha => ha.keeps (execRerun_tkeeps now jitter a r))
  exact this

/-! ### `probing_handler` -/

theorem wakeService_tkeeps (now jitter : Nat) (i : MyIntf) (acc : State × List Out) (name : BList) :
    Keeps acc.1 (wakeService now jitter i acc name).1 := by
  rcases wakeService_cases now jitter i acc name with h | ⟨svc, _, _, h | ⟨_, h⟩⟩ <;> rw [h]
  · exact Keeps.refl _
  · exact Keeps.set i.index rfl rfl rfl (fun _ h => h) (fun _ h => Or.inl h) (fun b hc => announce_pair_cov hc svc i now jitter)
  · refine Keeps.set i.index rfl rfl rfl mem_append_left' (fun r hr => ?_)
      (fun b hc => (announce_pair_cov hc svc i now jitter).sup mem_append_left')
    rcases List.mem_append.mp hr with hr | hr
    · exact Or.inl hr
    · rw [List.mem_singleton.mp hr]
      exact Or.inr (List.mem_append_right _ (List.mem_singleton.mpr rfl))

theorem drainNewTimers_tkeeps (idx : Nat) (acc : State × List Out) : Keeps acc.1 (drainNewTimers idx acc).1 :=
  Keeps.set idx rfl rfl rfl mem_append_left' (fun _ h => Or.inl h) (fun _ hc => drain_cov hc)

/-- what the body of `probing_handler` for interface index `k` does at `now` -/
structure ProbeStep (now k : Nat) (s s' : State) : Prop where
  intfs : s'.intfs = s.intfs
  ip : s'.nextIpCheck = s.nextIpCheck
  timers : ∀ t ∈ s.timers, t ∈ s'.timers
  reruns : ∀ r ∈ s'.reruns, r ∈ s.reruns ∨ r.next ∈ s'.timers
  other : ∀ idx, idx ≠ k → s'.registry idx = s.registry idx
  self : RCov s.timers (now + 1) (s.registry k) → RCov s'.timers 0 (s'.registry k)
  drained : (s'.registry k).newTimers = []

theorem probed_tkeeps {now : Nat} {acc : State × List Out} {i : MyIntf} {r : Registry}
    (hr : alookup i.index acc.1.registries = some r) : Keeps acc.1 (probed now acc i r).1 :=
  Keeps.set i.index rfl rfl rfl mem_append_left' (fun _ h => Or.inl h) (fun _ hc =>
    fun e he => (checkProbing_cov now i.name (registry_of_lookup hr ▸ hc) e he).imp id (Or.imp id And.right))

theorem probingOnIntf_tkeeps (now jitter : Nat) (acc : State × List Out) (i : MyIntf) :
    Keeps acc.1 (probingOnIntf now jitter acc i).1 :=
  probingOnIntf_ind (P := fun a => Keeps acc.1 a.1) now jitter acc i (fun _ => Keeps.refl _) (fun _ hr => probed_tkeeps hr)
    (fun a nm ha => ha.trans (wakeService_tkeeps now jitter i a nm)) (fun a ha => ha.trans (drainNewTimers_tkeeps i.index a))

theorem probingOnIntf_step (now jitter : Nat) (acc : State × List Out) (i : MyIntf) :
    ProbeStep now i.index acc.1 (probingOnIntf now jitter acc i).1 := by
  have hk := probingOnIntf_tkeeps now jitter acc i
  refine ⟨hk.intfs, hk.ip, hk.timers, hk.reruns,
    fun idx hne => probingOnIntf_registry_other now jitter acc i idx (Ne.symm hne), ?_, ?_⟩
  · cases hr : alookup i.index acc.1.registries with
    | none =>
      intro _
      rw [probingOnIntf_none hr, registry_of_none hr]
      exact RCov.empty _ _
    | some r =>
      intro hc
      rw [probingOnIntf_some hr]
      -- after `check_probing` nothing due is uncovered; the wake-ups and the drain keep that
      have h0 : RCov (probed now acc i r).1.timers 0 ((probed now acc i r).1.registry i.index) :=
        probed_registry_self now acc i r ▸ fun e he => (checkProbing_cov now i.name (registry_of_lookup hr ▸ hc) e he).imp id
          (Or.imp id (fun h => absurd h.1 (Nat.not_lt.mpr (Nat.le_of_lt_succ h.2))))
      exact ((foldl_tkeeps (wakeService now jitter i) _ (probed now acc i r) (wakeService_tkeeps now jitter i)).trans
        (drainNewTimers_tkeeps i.index _)).regs i.index 0 h0
  · cases hr : alookup i.index acc.1.registries with
    | none => rw [probingOnIntf_none hr, registry_of_none hr]
    | some r => rw [probingOnIntf_some hr, drainNewTimers_registry_self]

theorem probingHandler_tkeeps (s : State) (now jitter : Nat) : Keeps s (probingHandler s now jitter).1 :=
  foldl_tkeeps (probingOnIntf now jitter) s.intfs (s, []) (probingOnIntf_tkeeps now jitter)

/-- `probing_handler` over a list of interfaces: what the body establishes for the registry it
    works on (`hself`, given `I`, which every body keeps) and every body for another index keeps
    (`hother`) holds in the end for the index of every interface of the list -/
theorem probingFold_each (now jitter : Nat) (idx : Nat) (I P : State → Prop)
    (hI : ∀ acc i, I acc.1 → I (probingOnIntf now jitter acc i).1)
    (hself : ∀ acc i, i.index = idx → I acc.1 → P (probingOnIntf now jitter acc i).1)
    (hother : ∀ acc i, i.index ≠ idx → P acc.1 → P (probingOnIntf now jitter acc i).1) :
    ∀ (l : List MyIntf) (acc : State × List Out), idx ∈ l.map (·.index) → I acc.1 → P (l.foldl (probingOnIntf now jitter) acc).1 := by
  have hkeep : ∀ (l : List MyIntf) (acc : State × List Out), I acc.1 → P acc.1 → P (l.foldl (probingOnIntf now jitter) acc).1 :=
    fun l acc h1 h2 => (foldl_inv (fun (a : State × List Out) => I a.1 ∧ P a.1) _ l acc ⟨h1, h2⟩ (fun a i _ ha =>
      ⟨hI a i ha.1, if e : i.index = idx then hself a i e ha.1 else hother a i e ha.2⟩)).2
  intro l
  induction l with
  | nil => intro _ h; simp at h
  | cons a rest ih =>
    intro acc hidx hacc
    simp only [List.foldl_cons]
    by_cases e : a.index = idx
    · exact hkeep rest _ (hI acc a hacc) (hself acc a e hacc)
    · refine ih _ ?_ (hI acc a hacc)
      simp only [List.map_cons, List.mem_cons] at hidx
      exact hidx.resolve_left (fun h => e h.symm)

theorem probingHandler_each (s : State) (now jitter : Nat) (P : Registry → Prop)
    (hself : ∀ acc i, P ((probingOnIntf now jitter acc i).1.registry i.index)) :
    ∀ i ∈ s.intfs, P ((probingHandler s now jitter).1.registry i.index) := fun i hi =>
  probingFold_each now jitter i.index (fun _ => True) (fun s' => P (s'.registry i.index))
    (fun _ _ _ => trivial) (fun acc k e _ => e ▸ hself acc k)
    (fun acc k e h => ((probingOnIntf_step now jitter acc k).other _ (Ne.symm e)).symm ▸ h)
    s.intfs (s, []) (List.mem_map.mpr ⟨i, hi, rfl⟩) trivial

theorem probingHandler_drained (s : State) (now jitter : Nat) : Drained (probingHandler s now jitter).1 := by
  intro i hi
  rw [(probingHandler_frame s now jitter).1] at hi
  exact probingHandler_each s now jitter (fun r => r.newTimers = []) (fun acc k => (probingOnIntf_step now jitter acc k).drained) i hi

theorem probingHandler_mid {bi : Nat} (s : State) (now jitter : Nat) (h : Mid (now + 1) 0 bi s) :
    Mid 0 0 bi (probingHandler s now jitter).1 := by
  have hm := h.keeps (probingHandler_tkeeps s now jitter)
  refine ⟨fun i hi => ?_, hm.reruns, hm.ipcheck⟩
  rw [(probingHandler_frame s now jitter).1] at hi
  exact probingFold_each now jitter i.index (fun s' => RCov s'.timers (now + 1) (s'.registry i.index))
    (fun s' => RCov s'.timers 0 (s'.registry i.index))
    (fun acc k hc => (probingOnIntf_tkeeps now jitter acc k).regs _ _ hc)
    (fun acc k e hc => e ▸ (probingOnIntf_step now jitter acc k).self (e ▸ hc))
    (fun acc k _ hc => (probingOnIntf_tkeeps now jitter acc k).regs _ _ hc)
    s.intfs (s, []) (List.mem_map.mpr ⟨i, hi, rfl⟩) (h.probes i hi)

/-! ### the interface check -/

theorem runIpCheck_timers (s : State) (now : Nat) : ∀ t ∈ s.timers, t ∈ (runIpCheck s now).timers := by
  intro t ht
  rcases runIpCheck_cases s now with ⟨e, _⟩ | ⟨e, _⟩ | ⟨e, _⟩ <;> rw [e]
  · exact ht
  · exact ht
  · exact List.mem_append_left _ ht

theorem runIpCheck_ip (s : State) (now : Nat) (h : s.nextIpCheck ≠ 0 → s.nextIpCheck ∈ s.timers ∨ s.nextIpCheck < now + 1) :
    (runIpCheck s now).nextIpCheck ≠ 0 → (runIpCheck s now).nextIpCheck ∈ (runIpCheck s now).timers := by
  rcases runIpCheck_cases s now with ⟨e, hc⟩ | ⟨e, _⟩ | ⟨e, _⟩ <;> rw [e]
  · -- not due: it was covered by a timer
    intro hne
    exact (h hne).resolve_right (by omega)
  · exact fun hne => absurd rfl hne
  · exact fun _ => List.mem_append_right _ (List.mem_singleton.mpr rfl)

theorem runIpCheck_mid {s : State} (now : Nat) (h : Mid 0 0 (now + 1) s) : Mid 0 0 0 (runIpCheck s now) := by
  refine ⟨?_, ?_, ?_⟩
  · intro i hi
    rw [(runIpCheck_registries s now).2.1] at hi
    rw [registry_congr (runIpCheck_registries s now).1]
    exact (h.probes i hi).sup (runIpCheck_timers s now)
  · intro r hr
    rw [(runIpCheck_registries s now).2.2.2] at hr
    exact (h.reruns r hr).elim (fun h1 => Or.inl (runIpCheck_timers s now _ h1)) Or.inr
  · intro hne
    exact Or.inl (runIpCheck_ip s now h.ipcheck hne)

theorem runIpCheck_drained {s : State} (now : Nat) (h : Drained s) : Drained (runIpCheck s now) := by
  intro i hi
  rw [(runIpCheck_registries s now).2.1] at hi
  rw [registry_congr (runIpCheck_registries s now).1]
  exact h i hi

/-- One iteration, any input: if the timers cover the probes of every interface registry, the
    queued re-runs and the interface check before the iteration, then - unless the daemon has
    stopped - they do so after it, and every registry has handed over its `new_timers` -/
theorem iter_mid (s : State) (inp : Input) (h : Mid 0 0 0 s) :
    (iter s inp).1.stopped = true ∨ (Mid 0 0 0 (iter s inp).1 ∧ Drained (iter s inp).1) := by
  rcases iter_cases s inp with hst | ⟨hrun, e⟩
  · exact Or.inl hst.1
  · have h1 : Mid 0 0 0 (inp.rx.foldl (handleRead inp.now inp.jitter) (s, [])).1 :=
      h.keeps (foldl_tkeeps (handleRead inp.now inp.jitter) inp.rx (s, []) (fun a x => handleRead_tkeeps inp.now inp.jitter a x))
    have h3 : (afterCmds s inp).1.stopped = true ∨ Mid (inp.now + 1) (inp.now + 1) (inp.now + 1) (afterCmds s inp).1 :=
      foldl_inv (fun (a : State × List Out) => a.1.stopped = true ∨ Mid (inp.now + 1) (inp.now + 1) (inp.now + 1) a.1)
        (execCommand inp.now inp.jitter) inp.cmds (_, []) (Or.inr (pop_mid inp.now h1))
        (fun a c _ ha => execCommand_mid inp.now inp.jitter a c ha)
    have h4 := runReruns_mid _ inp.now inp.jitter (h3.resolve_left (by rw [hrun]; exact Bool.false_ne_true))
    rw [e]
    exact Or.inr ⟨runIpCheck_mid inp.now (probingHandler_mid _ inp.now inp.jitter h4),
      runIpCheck_drained inp.now (probingHandler_drained _ inp.now inp.jitter)⟩

end Mdns.Responder
