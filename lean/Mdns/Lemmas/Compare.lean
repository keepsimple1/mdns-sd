import Mdns.Lemmas.Decode
/-
  Lemmas for C08.  Every comparison of the model is `cmpNat` combined by `lex` and `lexList`:
  `Lawful` orders with the instances `cmpNat`, `cmpBytes`, `compareRData`, `cmpData`; `compareRec`, `zipCmp` and
  `cmpKey` are `cmpData` / `lexList cmpData` / a `lex` of `cmpNat` on projections of the records, which gives their
  `_swap` and transitivity lemmas;
  then `insertSorted` keeps a probe sorted, and decoded records are well-typed, hence comparable.
-/
namespace Mdns.Compare
open Mdns Mdns.Wire

/-- `cmp` is a strict order in which only identical values compare equal -/
structure Lawful {α : Type} (cmp : α → α → Ordering) : Prop where
  eq_iff : ∀ {a b}, cmp a b = .eq ↔ a = b
  lt_trans : ∀ {a b c}, cmp a b = .lt → cmp b c = .lt → cmp a c = .lt

/-- `o₁ o₂ o₃` are the first and `p₁ p₂ p₃` the second comparisons of (a, b), (b, c), (a, c) -/
theorem then_lt_trans {o₁ o₂ o₃ p₁ p₂ p₃ : Ordering}
    (ho : o₁ = .lt → o₂ = .lt → o₃ = .lt) (he₁ : o₁ = .eq → o₃ = o₂) (he₂ : o₂ = .eq → o₃ = o₁)
    (hp : p₁ = .lt → p₂ = .lt → p₃ = .lt)
    (h₁ : o₁.then p₁ = .lt) (h₂ : o₂.then p₂ = .lt) : o₃.then p₃ = .lt := by
  rw [Ordering.then_eq_lt] at *
  rcases h₁ with h₁ | ⟨e₁, h₁⟩ <;> rcases h₂ with h₂ | ⟨e₂, h₂⟩
  · exact .inl (ho h₁ h₂)
  · exact .inl (by rw [he₂ e₂, h₁])
  · exact .inl (by rw [he₁ e₁, h₂])
  · exact .inr ⟨by rw [he₁ e₁, e₂], hp h₁ h₂⟩

/-- the second comparison only matters where the first says "equal" -/
theorem then_swap {o o' p p' : Ordering} (ho : o' = o.swap) (hp : o = .eq → p' = p.swap) :
    o'.then p' = (o.then p).swap := by
  subst ho
  cases o
  · rfl
  · exact hp rfl
  · rfl

theorem opposite_of_swap {o o' : Ordering} (h : o' = o.swap) :
    (o = .lt ↔ o' = .gt) ∧ (o = .eq ↔ o' = .eq) ∧ (o = .gt ↔ o' = .lt) := by
  subst h
  cases o <;> decide

section
variable {α β : Type} {cmp : α → α → Ordering} {c₁ : α → α → Ordering} {c₂ : β → β → Ordering}

theorem Lawful.le_trans (h : Lawful cmp) (hs : ∀ a b, cmp b a = (cmp a b).swap) {a b c : α}
    (h₁ : cmp a b ≠ .gt) (h₂ : cmp b c ≠ .gt) : cmp a c ≠ .gt := by
  intro h₃
  have hca : cmp c a = .lt := by rw [hs a c, h₃]; rfl
  cases hab : cmp a b with
  | gt => exact h₁ hab
  | eq => rw [h.eq_iff.mp hab] at h₃; exact h₂ h₃
  | lt => exact h₂ (by rw [hs c b, h.lt_trans hca hab]; rfl)

def lex (c₁ : α → α → Ordering) (c₂ : β → β → Ordering) (p q : α × β) : Ordering :=
  (c₁ p.1 q.1).then (c₂ p.2 q.2)

theorem Lawful.lex (h₁ : Lawful c₁) (h₂ : Lawful c₂) : Lawful (lex c₁ c₂) where
  eq_iff := by simp only [Compare.lex, Ordering.then_eq_eq, h₁.eq_iff, h₂.eq_iff, Prod.ext_iff, implies_true]
  lt_trans := then_lt_trans h₁.lt_trans (fun e => by rw [h₁.eq_iff.mp e]) (fun e => by rw [h₁.eq_iff.mp e])
    h₂.lt_trans

theorem lex_swap (s₁ : ∀ a b, c₁ b a = (c₁ a b).swap) (s₂ : ∀ a b, c₂ b a = (c₂ a b).swap) (p q : α × β) :
    lex c₁ c₂ q p = (lex c₁ c₂ p q).swap :=
  then_swap (s₁ _ _) fun _ => s₂ _ _

def lexList (cmp : α → α → Ordering) : List α → List α → Ordering
  | [], [] => .eq
  | [], _ :: _ => .lt
  | _ :: _, [] => .gt
  | a :: as, b :: bs => (cmp a b).then (lexList cmp as bs)

theorem lexList_swap : ∀ as bs : List α, (∀ a ∈ as, ∀ b ∈ bs, cmp b a = (cmp a b).swap) →
    lexList cmp bs as = (lexList cmp as bs).swap
  | [], [], _ => rfl
  | [], _ :: _, _ => rfl
  | _ :: _, [], _ => rfl
  | a :: as, b :: bs, h => then_swap (h a (.head _) b (.head _)) fun _ =>
    lexList_swap as bs fun x hx y hy => h x (.tail _ hx) y (.tail _ hy)

theorem lexList_append_left (hr : ∀ a, cmp a a = .eq) (l r : List α) :
    ∀ as, lexList cmp (as ++ l) (as ++ r) = lexList cmp l r
  | [] => rfl
  | a :: as => by rw [List.cons_append, List.cons_append, lexList, hr, lexList_append_left hr l r as]; rfl

theorem Lawful.lexList (h : Lawful cmp) : Lawful (lexList cmp) where
  eq_iff := by
    intro as
    induction as with
    | nil => intro bs; cases bs <;> simp [Compare.lexList]
    | cons a as ih =>
      intro bs
      cases bs with
      | nil => simp [Compare.lexList]
      | cons b bs => simp only [Compare.lexList, Ordering.then_eq_eq, h.eq_iff, ih, List.cons.injEq]
  lt_trans := by
    intro as
    induction as with
    | nil =>
      intro bs cs h₁ h₂
      cases bs with
      | nil => cases h₁
      | cons b bs => cases cs with
        | nil => cases h₂
        | cons c cs => rfl
    | cons a as ih =>
      intro bs cs h₁ h₂
      cases bs with
      | nil => cases h₁
      | cons b bs => cases cs with
        | nil => cases h₂
        | cons c cs =>
          exact then_lt_trans h.lt_trans (fun e => by rw [h.eq_iff.mp e]) (fun e => by rw [h.eq_iff.mp e]) ih h₁ h₂

theorem Lawful.comap (h : Lawful cmp) (f : β → α) (hf : ∀ {a b}, f a = f b → a = b) :
    Lawful fun a b => cmp (f a) (f b) where
  eq_iff := ⟨fun e => hf (h.eq_iff.mp e), fun e => h.eq_iff.mpr (congrArg f e)⟩
  lt_trans := h.lt_trans

end

theorem cmpNat_eq_compare (a b : Nat) : cmpNat a b = compare a b := by
  rw [cmpNat, Nat.compare_eq_ite_lt]

theorem cmpNat_swap (a b : Nat) : cmpNat b a = (cmpNat a b).swap := by
  rw [cmpNat_eq_compare, cmpNat_eq_compare, Nat.compare_swap]

theorem cmpNat_eq_iff (a b : Nat) : cmpNat a b = .eq ↔ a = b := by
  rw [cmpNat_eq_compare, Nat.compare_eq_eq]

theorem cmpNat_lt_iff (a b : Nat) : cmpNat a b = .lt ↔ a < b := by
  rw [cmpNat_eq_compare, Nat.compare_eq_lt]

theorem cmpNat_lt_trans (a b c : Nat) (h1 : cmpNat a b = .lt) (h2 : cmpNat b c = .lt) : cmpNat a c = .lt := by
  rw [cmpNat_lt_iff] at *; omega

theorem cmpNat_lawful : Lawful cmpNat := ⟨cmpNat_eq_iff _ _, cmpNat_lt_trans _ _ _⟩

theorem cmpBytes_eq_lexList : ∀ a b : BList, cmpBytes a b = lexList (fun x y => cmpNat x.toNat y.toNat) a b
  | [], [] => rfl
  | [], _ :: _ => rfl
  | _ :: _, [] => rfl
  | x :: xs, y :: ys => by
    rw [cmpBytes, lexList, cmpBytes_eq_lexList xs ys, cmpNat]
    simp only [UInt8.lt_iff_toNat_lt]
    split
    · rfl
    · split <;> rfl

theorem cmpBytes_lawful : Lawful cmpBytes := by
  rw [show cmpBytes = _ from funext fun a => funext (cmpBytes_eq_lexList a)]
  exact (cmpNat_lawful.comap UInt8.toNat UInt8.toNat.inj).lexList

theorem cmpBytes_swap (a b : BList) : cmpBytes b a = (cmpBytes a b).swap := by
  rw [cmpBytes_eq_lexList, cmpBytes_eq_lexList]
  exact lexList_swap a b fun _ _ _ _ => cmpNat_swap _ _

theorem cmpBytes_refl (a : BList) : cmpBytes a a = .eq := cmpBytes_lawful.eq_iff.mpr rfl

theorem compareRData_swap (x y : RData) (h : kind x = kind y) :
    compareRData y x = (compareRData x y).swap := by
  -- within one struct the comparison is a `then`-chain of comparisons that swap
  cases x <;> cases y <;> simp [kind] at h
  all_goals simp only [compareRData, Ordering.swap_then, ← cmpBytes_swap, ← cmpNat_swap] <;> rfl

theorem compareRData_lawful : Lawful compareRData where
  eq_iff := by
    intro x y
    cases x <;> cases y
    all_goals simp [compareRData, Ordering.then_eq_eq, cmpBytes_lawful.eq_iff, cmpNat_eq_iff]
  lt_trans := by
    intro x y z h₁ h₂
    -- "earlier" is only said within one struct, and of a V4 against a V6 address
    cases x <;> cases y
    all_goals try (cases h₁; done)
    all_goals cases z
    all_goals try (cases h₂; done)
    case a.a.a | aaaa.aaaa.aaaa | ptr.ptr.ptr | txt.txt.txt => exact cmpBytes_lawful.lt_trans h₁ h₂
    case a.a.aaaa | a.aaaa.aaaa => rfl
    case srv.srv.srv =>
      exact (cmpNat_lawful.lex (cmpNat_lawful.lex (cmpNat_lawful.lex cmpBytes_lawful))).lt_trans
        (a := (_, _, _, _)) (b := (_, _, _, _)) (c := (_, _, _, _)) h₁ h₂
    case hinfo.hinfo.hinfo | nsec.nsec.nsec =>
      exact (cmpBytes_lawful.lex cmpBytes_lawful).lt_trans (a := (_, _)) (b := (_, _)) (c := (_, _)) h₁ h₂

/-- what is compared: class, type, RDATA (not the owner name, TTL or cache-flush bit) -/
def dataOf (r : Rec) : Nat × Nat × RData := (r.cls, r.ty, r.rdata)

def cmpData : Nat × Nat × RData → Nat × Nat × RData → Ordering := lex cmpNat (lex cmpNat compareRData)

theorem compareRec_eq (a b : Rec) : compareRec a b = cmpData (dataOf a) (dataOf b) := rfl

theorem cmpData_lawful : Lawful cmpData := cmpNat_lawful.lex (cmpNat_lawful.lex compareRData_lawful)

theorem compareRec_swap (a b : Rec) (h : compatible a b) : compareRec b a = (compareRec a b).swap :=
  then_swap (cmpNat_swap _ _) fun hc => then_swap (cmpNat_swap _ _) fun ht =>
    compareRData_swap _ _ (h ((cmpNat_eq_iff _ _).mp hc) ((cmpNat_eq_iff _ _).mp ht))

theorem zipCmp_eq_lexList : ∀ as bs : List Rec, zipCmp as bs = lexList cmpData (as.map dataOf) (bs.map dataOf)
  | [], [] => rfl
  | [], _ :: _ => rfl
  | _ :: _, [] => rfl
  | a :: as, b :: bs => by
    rw [zipCmp, List.map_cons, List.map_cons, lexList, ← compareRec_eq, ← zipCmp_eq_lexList as bs]
    cases compareRec a b <;> rfl

theorem zipCmp_swap (as bs : List Rec) (h : ∀ a ∈ as, ∀ b ∈ bs, compatible a b) :
    zipCmp bs as = (zipCmp as bs).swap := by
  rw [zipCmp_eq_lexList, zipCmp_eq_lexList]
  apply lexList_swap
  simp only [List.mem_map]
  rintro _ ⟨a, ha, rfl⟩ _ ⟨b, hb, rfl⟩
  exact compareRec_swap a b (h a ha b hb)

theorem zipCmp_append_left (as l r : List Rec) : zipCmp (as ++ l) (as ++ r) = zipCmp l r := by
  simp only [zipCmp_eq_lexList, List.map_append]
  exact lexList_append_left (fun _ => cmpData_lawful.eq_iff.mpr rfl) _ _ _

theorem incomingFor_self (l : List Rec) (name : BList) (h : ∀ r ∈ l, r.name = name) : incomingFor l name = l :=
  List.filter_eq_self.mpr fun r hr => beq_iff_eq.mpr (h r hr)

theorem cmpKey_swap (a b : Rec) : cmpKey b a = (cmpKey a b).swap :=
  lex_swap cmpNat_swap cmpNat_swap (a.cls, a.ty) (b.cls, b.ty)

theorem cmpKey_trans_le (a b c : Rec) (h1 : cmpKey a b ≠ .gt) (h2 : cmpKey b c ≠ .gt) :
    cmpKey a c ≠ .gt :=
  (cmpNat_lawful.lex cmpNat_lawful).le_trans (lex_swap cmpNat_swap cmpNat_swap)
    (a := (a.cls, a.ty)) (b := (b.cls, b.ty)) (c := (c.cls, c.ty)) h1 h2

theorem sortedByKey_cons (a : Rec) (l : List Rec) :
    sortedByKey (a :: l) = true ↔ (∀ x ∈ l.head?, cmpKey a x ≠ .gt) ∧ sortedByKey l = true := by
  cases l <;> simp [sortedByKey]

theorem insertSorted_cons (r x : Rec) (xs : List Rec) :
    insertSorted r (x :: xs) = if cmpKey x r = .gt then r :: x :: xs else x :: insertSorted r xs := by
  simp only [insertSorted, beq_iff_eq]

theorem insertSorted_head (r a : Rec) (har : cmpKey a r ≠ .gt) : ∀ l : List Rec,
    (∀ x ∈ l.head?, cmpKey a x ≠ .gt) → ∀ x ∈ (insertSorted r l).head?, cmpKey a x ≠ .gt
  | [], _ => by simpa [insertSorted] using har
  | y :: ys, h => by
    rw [insertSorted_cons]
    split
    · simpa using har
    · simpa using h

theorem insertSorted_sorted (r : Rec) : ∀ (l : List Rec), sortedByKey l = true →
    sortedByKey (insertSorted r l) = true
  | [], _ => rfl
  | x :: xs, h => by
    rw [insertSorted_cons]
    split
    · next hx =>
      rw [sortedByKey_cons]
      exact ⟨by simp [cmpKey_swap x r, hx], h⟩
    · next hx =>
      rw [sortedByKey_cons] at h ⊢
      exact ⟨insertSorted_head r x hx xs h.1, insertSorted_sorted r xs h.2⟩

theorem insertSorted_perm (r : Rec) : ∀ (l : List Rec), (insertSorted r l).Perm (r :: l)
  | [] => .refl _
  | x :: xs => by
    rw [insertSorted_cons]
    split
    · exact .refl _
    · exact ((insertSorted_perm r xs).cons x).trans (.swap r x xs)

/-- the struct of a well-typed record is a function of its type number (the one `read_rr_records`
    builds for it) -/
theorem wellTyped_kind : ∃ f : Nat → Kind, ∀ r : Rec, wellTyped r = true → kind r.rdata = f r.ty := by
  refine ⟨fun | 1 | 28 => .addr | 33 => .srv | 16 => .txt | 13 => .hinfo | 47 => .nsec | _ => .ptr, fun r h => ?_⟩
  unfold wellTyped at h
  cases hr : r.rdata <;> simp only [hr, beq_iff_eq, Bool.or_eq_true] at h
  case ptr => rcases h with h | h <;> rw [h] <;> rfl
  all_goals rw [h]; rfl

theorem wellTyped_compatible (a b : Rec) (ha : wellTyped a = true) (hb : wellTyped b = true) :
    compatible a b :=
  let ⟨_, hf⟩ := wellTyped_kind
  fun _ ht => by rw [hf a ha, hf b hb, ht]

/-- Every record `DnsIncoming::new` returns has the type number its RDATA kind is decoded
    for: two decoded records of equal class and type are held by the same Rust struct. -/
theorem decode_wellTyped (d : Pkt) (m : Msg) (h : decode d = .ok m) :
    ∀ r ∈ m.answers ++ m.authorities ++ m.additionals, wellTyped r = true := by
  obtain ⟨_, _, _, _, _, S⟩ := (Wire.decode_spec d).of_ok h
  exact fun r hr => (S.mem r hr).2.2.wellTyped

end Mdns.Compare
