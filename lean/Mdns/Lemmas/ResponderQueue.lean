import Mdns.Lemmas.Responder
/-
  What the loop after the commands (re-runs, `probing_handler`, the interface check) does to the
  daemon whatever the probes do: the service table keeps every entry and only marks services
  announced (`SvcLe`), the re-run queue loses its due entries and gains `RegisterResend`s
  (`runReruns_frame`, `Woken`), interfaces and `stopped` stay.  An iteration without datagram and
  command is that loop tail (`iter_idle`, `loopTail`).
-/
namespace Mdns.Responder
open Mdns

/-! ### the service entry across iterations without commands -/

/-- `u` is `svc` up to the per-interface status.  This is what the loop does to a stored service; `SvcSame`
    (ResponderSched) keeps only the four consequences the probe lemmas read (`UpToStatus.uniq/.addrs/.probe/.full`,
    bridge `UpToStatus.same`) and is the relation the statements about `Settled` are written with; `C06.SameData`
    is the same idea for the answers to a query. -/
def UpToStatus (u svc : Service) : Prop := ∃ st, u = { svc with status := st }

theorem UpToStatus.refl (svc : Service) : UpToStatus svc svc := ⟨svc.status, rfl⟩

theorem UpToStatus.setStatus {u svc : Service} (h : UpToStatus u svc) (k : Nat) (x : Status) : UpToStatus (u.setStatus k x) svc := by
  obtain ⟨st, rfl⟩ := h
  exact ⟨aset k x st, rfl⟩

theorem UpToStatus.uniq {u svc : Service} (h : UpToStatus u svc) (i : MyIntf) (r : Registry) (v : Bool) :
    uniqueRecords u i r v = uniqueRecords svc i r v := by obtain ⟨st, rfl⟩ := h; rfl
theorem UpToStatus.addrs {u svc : Service} (h : UpToStatus u svc) (i : MyIntf) (v : Bool) : addrsOn u i v = addrsOn svc i v := by
  obtain ⟨st, rfl⟩ := h; rfl
theorem UpToStatus.probe {u svc : Service} (h : UpToStatus u svc) : u.probe = svc.probe := by obtain ⟨st, rfl⟩ := h; rfl
theorem UpToStatus.full {u svc : Service} (h : UpToStatus u svc) : u.fullname = svc.fullname := by obtain ⟨st, rfl⟩ := h; rfl
theorem UpToStatus.ptr {u svc : Service} (h : UpToStatus u svc) (t : BList) (ttl : Nat) : ptrRecords u t ttl = ptrRecords svc t ttl := by
  obtain ⟨st, rfl⟩ := h; rfl
theorem UpToStatus.trans {u v svc : Service} (h1 : UpToStatus u v) (h2 : UpToStatus v svc) : UpToStatus u svc := by
  obtain ⟨st, rfl⟩ := h1
  obtain ⟨_, rfl⟩ := h2
  exact ⟨st, rfl⟩

theorem prepareAnnounceReg_setStatus (svc : Service) (k : Nat) (x : Status) (i : MyIntf) (r : Registry) (v4 : Bool) (now j : Nat) :
    prepareAnnounceReg (svc.setStatus k x) i r v4 now j = prepareAnnounceReg svc i r v4 now j := rfl

theorem prepareAnnouncePkt_setStatus (svc : Service) (k : Nat) (x : Status) (i : MyIntf) (r : Registry) (v4 : Bool) :
    prepareAnnouncePkt (svc.setStatus k x) i r v4 = prepareAnnouncePkt svc i r v4 := rfl

/-- the service is registered under `key` with the data of `svc` -/
def Entry (s : State) (key : BList) (svc : Service) : Prop := ∃ u, alookup key s.services = some u ∧ UpToStatus u svc

/-- the service is registered under `key` with the data of `svc` and `Announced` on `idx` -/
def Announced (s : State) (key : BList) (svc : Service) (idx : Nat) : Prop :=
  ∃ u, alookup key s.services = some u ∧ UpToStatus u svc ∧ u.announcedOn idx = true

/-- The service table `l'` has every entry of `l`, with the same data, announced wherever it
    was.  This is all the loop does to the table between two commands. -/
def SvcLe (l l' : List (BList × Service)) : Prop :=
  ∀ key u, alookup key l = some u →
    ∃ u', alookup key l' = some u' ∧ UpToStatus u' u ∧ ∀ idx, u.announcedOn idx = true → u'.announcedOn idx = true

theorem SvcLe.refl (l : List (BList × Service)) : SvcLe l l := fun _ u h => ⟨u, h, UpToStatus.refl u, fun _ h => h⟩

theorem SvcLe.trans {a b c : List (BList × Service)} (h1 : SvcLe a b) (h2 : SvcLe b c) : SvcLe a c := by
  intro key u hu
  obtain ⟨v, hv, hs1, ha1⟩ := h1 key u hu
  obtain ⟨w, hw, hs2, ha2⟩ := h2 key v hv
  exact ⟨w, hw, hs2.trans hs1, fun idx h => ha2 idx (ha1 idx h)⟩

/-- the one change: the entry of some key is stored again, announced on one more interface -/
theorem SvcLe.mark {l : List (BList × Service)} {k : BList} {u0 : Service} (idx : Nat) (h0 : alookup k l = some u0) :
    SvcLe l (aset k (u0.setStatus idx .announced) l) := by
  intro key u hu
  by_cases e : key = k
  · subst e
    cases hu.symm.trans h0
    refine ⟨_, alookup_aset_self _ _ _, (UpToStatus.refl _).setStatus idx .announced, fun idx' ha => ?_⟩
    rw [announcedOn_setStatus]
    split
    · rfl
    · exact ha
  · exact ⟨u, by rw [alookup_aset_ne _ _ _ _ e]; exact hu, UpToStatus.refl u, fun _ h => h⟩

theorem Entry.le {s s' : State} {key : BList} {svc : Service} (h : Entry s key svc) (hle : SvcLe s.services s'.services) :
    Entry s' key svc := by
  obtain ⟨u, hu, hs⟩ := h
  obtain ⟨u', hu', hs', _⟩ := hle key u hu
  exact ⟨u', hu', hs'.trans hs⟩

theorem Announced.le {s s' : State} {key : BList} {svc : Service} {idx : Nat} (h : Announced s key svc idx)
    (hle : SvcLe s.services s'.services) : Announced s' key svc idx := by
  obtain ⟨u, hu, hs, ha⟩ := h
  obtain ⟨u', hu', hs', ha'⟩ := hle key u hu
  exact ⟨u', hu', hs'.trans hs, ha' idx ha⟩

/-! ### `probing_handler` keeps the interfaces and `stopped` -/

theorem wakeService_frame (now j : Nat) (i : MyIntf) (acc : State × List Out) (name : BList) :
    (wakeService now j i acc name).1.intfs = acc.1.intfs ∧ (wakeService now j i acc name).1.stopped = acc.1.stopped := by
  rcases wakeService_cases now j i acc name with e | ⟨_, _, _, e | ⟨_, e⟩⟩ <;> rw [e] <;> exact ⟨rfl, rfl⟩

theorem probingOnIntf_frame (now j : Nat) (acc : State × List Out) (i : MyIntf) :
    (probingOnIntf now j acc i).1.intfs = acc.1.intfs ∧ (probingOnIntf now j acc i).1.stopped = acc.1.stopped := by
  exact probingOnIntf_ind (P := fun a => a.1.intfs = acc.1.intfs ∧ a.1.stopped = acc.1.stopped) now j acc i
    (fun _ => ⟨rfl, rfl⟩) (fun _ _ => ⟨rfl, rfl⟩)
    (fun a nm h => ⟨(wakeService_frame now j i a nm).1.trans h.1, (wakeService_frame now j i a nm).2.trans h.2⟩) fun _ => id

theorem probingHandler_frame (s : State) (now j : Nat) :
    (probingHandler s now j).1.intfs = s.intfs ∧ (probingHandler s now j).1.stopped = s.stopped := by
  unfold probingHandler
  exact foldl_inv (fun (a : State × List Out) => a.1.intfs = s.intfs ∧ a.1.stopped = s.stopped) _ _ _ ⟨rfl, rfl⟩
    (fun a i _ ha => ⟨(probingOnIntf_frame now j a i).1.trans ha.1, (probingOnIntf_frame now j a i).2.trans ha.2⟩)

/-! ### what the loop after the commands does to the service table and the re-run queue -/

/-- `probing_handler` at `now`: services are marked announced, each with a `RegisterResend`
    queued for `now + 1000` -/
structure Woken (now : Nat) (s s' : State) : Prop where
  services : SvcLe s.services s'.services
  reruns : ∃ new, s'.reruns = s.reruns ++ new ∧ ∀ x ∈ new, ∃ f k, x = .registerResend (now + 1000) f k

theorem Woken.of_eq {now : Nat} {s s' : State} (hs : s'.services = s.services) (hr : s'.reruns = s.reruns) : Woken now s s' :=
  ⟨hs ▸ SvcLe.refl _, [], by rw [hr, List.append_nil], fun _ h => by cases h⟩

theorem Woken.trans {now : Nat} {a b c : State} (h1 : Woken now a b) (h2 : Woken now b c) : Woken now a c := by
  obtain ⟨n1, e1, hn1⟩ := h1.reruns
  obtain ⟨n2, e2, hn2⟩ := h2.reruns
  refine ⟨h1.services.trans h2.services, n1 ++ n2, by rw [e2, e1, List.append_assoc], fun x hx => ?_⟩
  exact (List.mem_append.mp hx).elim (hn1 x) (hn2 x)

theorem Woken.mem {now : Nat} {s s' : State} (h : Woken now s s') {x : ReRun} (hx : x ∈ s.reruns) : x ∈ s'.reruns := by
  obtain ⟨new, e, _⟩ := h.reruns
  rw [e]
  exact List.mem_append_left _ hx

theorem wakeService_woken (now j : Nat) (i : MyIntf) (acc : State × List Out) (name : BList) :
    Woken now acc.1 (wakeService now j i acc name).1 := by
  rcases wakeService_cases now j i acc name with h | ⟨svc, hsvc, _, h | ⟨_, h⟩⟩ <;> rw [h]
  · exact Woken.of_eq rfl rfl
  · exact Woken.of_eq rfl rfl
  · exact ⟨SvcLe.mark i.index hsvc, [_], rfl, fun x hx => ⟨_, _, List.mem_singleton.mp hx⟩⟩

theorem probingOnIntf_woken (now j : Nat) (acc : State × List Out) (i : MyIntf) : Woken now acc.1 (probingOnIntf now j acc i).1 :=
  probingOnIntf_ind (P := fun a => Woken now acc.1 a.1) now j acc i (fun _ => Woken.of_eq rfl rfl) (fun _ _ => Woken.of_eq rfl rfl)
    (fun a nm ha => ha.trans (wakeService_woken now j i a nm)) (fun _ ha => ha.trans (Woken.of_eq rfl rfl))

theorem probingHandler_woken (s : State) (now j : Nat) : Woken now s (probingHandler s now j).1 :=
  foldl_inv (fun (a : State × List Out) => Woken now s a.1) (probingOnIntf now j) s.intfs (s, []) (Woken.of_eq rfl rfl)
    (fun a i _ ha => ha.trans (probingOnIntf_woken now j a i))

/-- a due re-run changes neither the queue nor the interfaces nor `stopped` -/
theorem execRerun_frame (now j : Nat) (acc : State × List Out) (r : ReRun) :
    SvcLe acc.1.services (execRerun now j acc r).1.services ∧ (execRerun now j acc r).1.reruns = acc.1.reruns ∧
    (execRerun now j acc r).1.intfs = acc.1.intfs ∧ (execRerun now j acc r).1.stopped = acc.1.stopped := by
  cases r with
  | unregisterResend t p k v => exact ⟨SvcLe.refl _, rfl, rfl, rfl⟩
  | registerResend t f k =>
    rw [execRerun_registerResend]
    rcases execRegisterResend_cases acc.1 now j f k with h | ⟨svc, _, _, hsvc, _, _, h | ⟨_, h⟩⟩ <;> rw [h]
    · exact ⟨SvcLe.refl _, rfl, rfl, rfl⟩
    · exact ⟨SvcLe.refl _, rfl, rfl, rfl⟩
    · exact ⟨SvcLe.mark k hsvc, rfl, rfl, rfl⟩

/-- the re-run loop: the due entries leave the queue -/
theorem runReruns_frame (s : State) (now j : Nat) :
    SvcLe s.services (runReruns s now j).1.services ∧
    (runReruns s now j).1.reruns = s.reruns.filter (fun r => !decide (now ≥ r.next)) ∧ (runReruns s now j).1.intfs = s.intfs ∧
    (runReruns s now j).1.stopped = s.stopped :=
  foldl_inv (fun (a : State × List Out) => SvcLe s.services a.1.services ∧
      a.1.reruns = s.reruns.filter (fun r => !decide (now ≥ r.next)) ∧ a.1.intfs = s.intfs ∧ a.1.stopped = s.stopped)
    (execRerun now j) _ (_, []) ⟨SvcLe.refl _, rfl, rfl, rfl⟩
    (fun a r _ ⟨h1, h2, h3, h4⟩ =>
      ⟨h1.trans (execRerun_frame now j a r).1, (execRerun_frame now j a r).2.1.trans h2,
        (execRerun_frame now j a r).2.2.1.trans h3, (execRerun_frame now j a r).2.2.2.trans h4⟩)

/-! ### no queued goodbye repeat is a query -/

/-- no queued goodbye repeat holds a query packet (true of every reachable state: the stored
    packets are goodbye responses) -/
def RerunsOk (s : State) : Prop := ∀ t p k v, ReRun.unregisterResend t p k v ∈ s.reruns → p.flags ≠ 0

theorem probingHandler_rerunsOk (s : State) (now j : Nat) (h : RerunsOk s) : RerunsOk (probingHandler s now j).1 := by
  obtain ⟨new, e, hnew⟩ := (probingHandler_woken s now j).reruns
  intro t p k v hm
  rw [e] at hm
  rcases List.mem_append.mp hm with h' | h'
  · exact h t p k v h'
  · obtain ⟨_, _, e'⟩ := hnew _ h'
    cases e'

/-! ### an idle iteration -/

/-- an iteration without datagram and without command -/
def idle (now j : Nat) : Input := { now := now, jitter := j }

/-- the loop after the commands: re-runs, `probing_handler`, the interface-check timer -/
def loopTail (s : State) (now j : Nat) : State × List Out :=
  (runIpCheck (probingHandler (runReruns s now j).1 now j).1 now,
   (runReruns s now j).2 ++ (probingHandler (runReruns s now j).1 now j).2)

theorem iter_idle (s : State) (now j : Nat) (h : s.stopped = false) :
    iter s (idle now j) = loopTail { s with timers := s.timers.filter (· > now) } now j := by
  have h4 : (runReruns { s with timers := s.timers.filter (· > now) } now j).1.stopped = false := by
    rw [(runReruns_frame _ now j).2.2.2]; exact h
  unfold iter idle loopTail
  simp [h]

theorem runIpCheck_registries (s : State) (now : Nat) :
    (runIpCheck s now).registries = s.registries ∧ (runIpCheck s now).intfs = s.intfs ∧
    (runIpCheck s now).stopped = s.stopped ∧ (runIpCheck s now).reruns = s.reruns := by
  unfold runIpCheck
  repeat' split
  all_goals exact ⟨rfl, rfl, rfl, rfl⟩

theorem runIpCheck_services (s : State) (now : Nat) : (runIpCheck s now).services = s.services := by
  unfold runIpCheck
  repeat' split
  all_goals rfl

theorem loopTail_fst (s : State) (now j : Nat) :
    (loopTail s now j).1 = runIpCheck (probingHandler (runReruns s now j).1 now j).1 now := by
  unfold loopTail
  rfl

theorem loopTail_svcLe (s : State) (now j : Nat) : SvcLe s.services (loopTail s now j).1.services := by
  unfold loopTail
  rw [runIpCheck_services]
  exact (runReruns_frame s now j).1.trans (probingHandler_woken _ now j).services

theorem loopTail_frame (s : State) (now j : Nat) :
    (loopTail s now j).1.intfs = s.intfs ∧ (loopTail s now j).1.stopped = s.stopped := by
  unfold loopTail
  obtain ⟨_, e2, e3, _⟩ := runIpCheck_registries (probingHandler (runReruns s now j).1 now j).1 now
  obtain ⟨f1, f2⟩ := probingHandler_frame (runReruns s now j).1 now j
  exact ⟨e2.trans (f1.trans (runReruns_frame s now j).2.2.1), e3.trans (f2.trans (runReruns_frame s now j).2.2.2)⟩

theorem iter_idle_frame (s : State) (now j : Nat) (h : s.stopped = false) :
    (iter s (idle now j)).1.intfs = s.intfs ∧ (iter s (idle now j)).1.stopped = false := by
  rw [iter_idle s now j h]
  exact ⟨(loopTail_frame _ now j).1, (loopTail_frame _ now j).2.trans h⟩

end Mdns.Responder
