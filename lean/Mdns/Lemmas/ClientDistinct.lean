import Mdns.Lemmas.ClientWf
/-
  The entries of the cache are pairwise different records (owner, type, class, cache-flush bit,
  RDATA): an invariant of every cache operation of the client (`ListsDistinct`), and - with
  distinct names and provenance - of the cache as a whole.  Used for the size bound of C20.
-/
namespace Mdns.Client
open Mdns Mdns.Rec Mdns.Cache

/-- the identity of a cached record: what `matches` compares -/
def idOf (e : Entry) : BList × Nat × Nat × Bool × RData :=
  (e.record.name, e.record.ty, e.record.cls, e.record.flush, e.record.rdata)

theorem matches_iff_id (a : Entry) (b : Record) (src : BList) (i : Nat) :
    a.record.matchesRec b = true ↔ idOf a = idOf ⟨b, src, i⟩ := by
  rw [matchesRec_iff]
  simp only [idOf, Prod.mk.injEq]

/-- the entries of every name are pairwise different records -/
def TableD (t : Table) : Prop := ∀ p ∈ t, (p.2.map idOf).Nodup

def ListsDistinct (c : Cache) : Prop := ∀ sl : Slot, TableD (c.table sl)

theorem TableD.sub {t t' : Table} (h : TableD t) (hs : ∀ p ∈ t', p ∈ t) : TableD t' := fun p hp => h p (hs p hp)

theorem TableD.erase {t : Table} (h : TableD t) (k : BList) : TableD (t.erase k) :=
  h.sub fun _ hp => (List.mem_filter.mp hp).1

theorem TableD.modify {t : Table} (h : TableD t) (k : BList) (f : List Entry → List Entry)
    (hf : ∀ es, ((f es).map idOf).Sublist (es.map idOf)) : TableD (t.modify k f) := by
  intro p' hp'
  simp only [Table.modify, List.mem_map] at hp'
  obtain ⟨p, hp, rfl⟩ := hp'
  split
  · exact (h p hp).sublist (hf p.2)
  · exact h p hp

theorem TableD.set {t : Table} (h : TableD t) (k : BList) (v : List Entry) (hv : (v.map idOf).Nodup) :
    TableD (t.set k v) := by
  intro p hp
  rcases Table.mem_set t k v p hp with rfl | hp
  · exact hv
  · exact h p hp

theorem TableD.evictTable {t : Table} (h : TableD t) (now : Nat) : TableD (Cache.evictTable now t) := by
  intro p hp
  obtain ⟨k, es'⟩ := p
  obtain ⟨es, hes, h2, _⟩ := (mem_evictTable now t k es').mp hp
  simp only [h2]
  exact (h (k, es) hes).sublist (List.Sublist.map _ List.filter_sublist)

theorem map_id_of_pointwise (g : Entry → Entry) (hg : ∀ e, idOf (g e) = idOf e) (es : List Entry) :
    (es.map g).map idOf = es.map idOf := by
  rw [List.map_map]
  apply List.map_congr_left
  intro e _
  exact hg e

theorem TableD.map {t : Table} (h : TableD t) (k : BList) {g : Entry → Entry} (hg : ∀ e, idOf (g e) = idOf e) :
    TableD (t.modify k fun es => es.map g) :=
  h.modify k _ fun es => map_id_of_pointwise g hg es ▸ List.Sublist.refl _

theorem flushList_ids (inc : Record) (now : Nat) (es : List Entry) : (flushList inc now es).map idOf = es.map idOf := by
  unfold flushList
  split
  · apply map_id_of_pointwise
    intro e
    simp only [idOf, flushOne]
    split <;> rfl
  · rfl

theorem resetFirst_ids (inc : Record) : ∀ es : List Entry, (resetFirst inc es).map idOf = es.map idOf
  | [] => rfl
  | e :: rest => by
    simp only [resetFirst]
    split
    · rfl
    · simp only [List.map_cons, resetFirst_ids inc rest]

theorem upsert_nodup (srcName : BList) (srcIdx : Nat) (inc : Record) (es : List Entry) (h : (es.map idOf).Nodup) :
    ((upsert srcName srcIdx inc es).map idOf).Nodup := by
  unfold upsert
  split
  · rw [resetFirst_ids]
    exact h
  · rename_i hm
    simp only [List.map_cons, List.nodup_cons]
    refine ⟨?_, h⟩
    intro hmem
    obtain ⟨e, he, hid⟩ := List.mem_map.mp hmem
    have : e.record.matchesRec inc = true := (matches_iff_id e inc srcName srcIdx).mpr hid
    exact hm (by simp only [hasMatch, List.any_eq_true]; exact ⟨e, he, this⟩)

theorem listsDistinct_closed (now : Nat) : CacheOpsClosed ListsDistinct now := by
  refine cacheOpsClosed_of_tables (T := fun _ => TableD) (fun c srcName srcIdx inc forUs h => ?_)
    (fun _ _ k h => h.erase k)
    (fun _ _ _ k h => h.map k fun e => by
      simp only [idOf, soonerEntry, Record.setExpireSooner]
      split <;> rfl)
    (fun _ _ k h => h.map k fun e => by
      simp only [idOf, Record.refreshed]
      split <;> rfl)
    (fun _ _ _ k h => h.map k fun e => by split <;> rfl)
    (fun _ _ h => h.evictTable now)
  refine tables_addOrUpdate c srcName srcIdx inc now forUs (fun _ t _ ht => ?_) h
  have hbucket : ∀ k, (((t.get k).getD []).map idOf).Nodup := by
    intro k
    cases hg : t.get k with
    | none => exact List.nodup_nil
    | some es => exact ht (k, es) (lookup_mem _ _ _ hg)
  exact ⟨ht.set _ _ (hbucket _), ht.set _ _ (upsert_nodup _ _ _ _ (by rw [flushList_ids]; exact hbucket _))⟩

theorem listsDistinct_empty : ListsDistinct {} := by
  intro sl p hp
  cases sl <;> simp [Cache.table] at hp

/-- all entries of a table / of the cache -/
def tableEntries (t : Table) : List Entry := t.flatMap (·.2)

def cacheEntries (c : Cache) : List Entry :=
  tableEntries c.ptr ++ tableEntries c.srv ++ tableEntries c.txt ++ tableEntries c.addr ++ tableEntries c.nsec

theorem tableCount_eq (t : Table) : tableCount t = (tableEntries t).length := by
  simp [tableCount, tableEntries, List.length_flatMap]

theorem mem_tableEntries (t : Table) (e : Entry) : e ∈ tableEntries t ↔ ∃ p ∈ t, e ∈ p.2 := by
  simp [tableEntries]

/-- within one table: distinct names, distinct records under each name, each entry filed under
    its own name ⇒ all entries are different records -/
theorem table_ids_pairwise (sl : Slot) (t : Table) (hk : t.keys.Nodup) (hd : TableD t)
    (hf : ∀ p ∈ t, ∀ e ∈ p.2, Filed sl p.1 e) : (tableEntries t).Pairwise (fun a b => idOf a ≠ idOf b) := by
  unfold tableEntries
  rw [List.pairwise_flatMap]
  refine ⟨?_, ?_⟩
  · intro p hp
    have := hd p hp
    rw [List.Nodup, List.pairwise_map] at this
    exact this
  · have hk' : t.Pairwise (fun p p' => p.1 ≠ p'.1) := by
      have := hk
      unfold Table.keys at this
      rw [List.Nodup, List.pairwise_map] at this
      exact this
    refine hk'.imp_of_mem ?_
    intro p p' hp hp' hne x hx y hy hid
    have h1 := (hf p hp x hx).2
    have h2 := (hf p' hp' y hy).2
    have hname : x.record.name = y.record.name := by
      simp only [idOf, Prod.mk.injEq] at hid
      exact hid.1
    rw [hname] at h1
    exact hne (h1.symm.trans h2)

theorem slot_ne_ids {sl sl' : Slot} (hne : sl ≠ sl') {a b : Entry} {k k' : BList} (ha : Filed sl k a) (hb : Filed sl' k' b) :
    idOf a ≠ idOf b := by
  intro hid
  simp only [idOf, Prod.mk.injEq] at hid
  have h1 := ha.1
  have h2 := hb.1
  rw [hid.2.1] at h1
  rw [h1] at h2
  exact hne (Option.some.inj h2)

/-- **all entries of the cache are pairwise different records** -/
theorem cache_ids_nodup (hist : List Delivery) (c : Cache) (hp : CacheProv hist c) (hk : KeysNodup c) (hd : ListsDistinct c) :
    ((cacheEntries c).map idOf).Nodup := by
  rw [List.Nodup, List.pairwise_map]
  have hfiled : ∀ sl : Slot, ∀ p ∈ c.table sl, ∀ e ∈ p.2, Filed sl p.1 e := fun sl p hpp e he => (hp sl p hpp e he).2
  have ht : ∀ sl : Slot, (tableEntries (c.table sl)).Pairwise (fun a b => idOf a ≠ idOf b) :=
    fun sl => table_ids_pairwise sl _ (hk sl) (hd sl) (hfiled sl)
  have hx : ∀ (sl sl' : Slot), sl ≠ sl' → ∀ a ∈ tableEntries (c.table sl), ∀ b ∈ tableEntries (c.table sl'),
      idOf a ≠ idOf b := by
    intro sl sl' hne a ha b hb
    obtain ⟨p, hpp, hap⟩ := (mem_tableEntries _ a).mp ha
    obtain ⟨p', hpp', hbp⟩ := (mem_tableEntries _ b).mp hb
    exact slot_ne_ids hne (hfiled sl p hpp a hap) (hfiled sl' p' hpp' b hbp)
  unfold cacheEntries
  simp only [List.pairwise_append, List.mem_append]
  refine ⟨⟨⟨⟨ht .ptr, ht .srv, ?_⟩, ht .txt, ?_⟩, ht .addr, ?_⟩, ht .nsec, ?_⟩
  · exact hx .ptr .srv (by decide)
  · rintro a (ha | ha) b hb
    · exact hx .ptr .txt (by decide) a ha b hb
    · exact hx .srv .txt (by decide) a ha b hb
  · rintro a ((ha | ha) | ha) b hb
    · exact hx .ptr .addr (by decide) a ha b hb
    · exact hx .srv .addr (by decide) a ha b hb
    · exact hx .txt .addr (by decide) a ha b hb
  · rintro a (((ha | ha) | ha) | ha) b hb
    · exact hx .ptr .nsec (by decide) a ha b hb
    · exact hx .srv .nsec (by decide) a ha b hb
    · exact hx .txt .nsec (by decide) a ha b hb
    · exact hx .addr .nsec (by decide) a ha b hb

end Mdns.Client
