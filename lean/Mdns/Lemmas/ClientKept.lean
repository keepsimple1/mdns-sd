import Mdns.Lemmas.ClientStop
/-
  C13 on the client model: a running browse / an open hostname search stays in the state until a
  command for its name (or its time-out) ends or replaces it.
-/
namespace Mdns.Client
open Mdns Mdns.Rec Mdns.Cache

theorem find_filter_first {α} (p q : α → Bool) (x : α) (hx : p x = true) :
    ∀ l : List α, l.find? q = some x → (l.filter p).find? q = some x
  | [], h => by cases h
  | a :: l, h => by
    simp only [List.find?_cons] at h
    simp only [List.filter_cons]
    cases hq : q a with
    | true =>
      simp only [hq] at h
      cases h
      simp [hx, hq]
    | false =>
      simp only [hq] at h
      by_cases hp : p a = true
      · simp only [hp, if_true, List.find?_cons, hq]
        exact find_filter_first p q x hx l h
      · simp only [hp, Bool.false_eq_true, if_false]
        exact find_filter_first p q x hx l h

theorem filter_key_filter_ne {β} {k k' : BList} (hne : (k' == k) = false) (l : List (BList × β)) :
    (l.filter (fun q => q.1 != k')).filter (·.1 == k) = l.filter (·.1 == k) := by
  rw [List.filter_filter]
  refine List.filter_congr fun q _ => ?_
  cases hq : q.1 == k with
  | false => rfl
  | true =>
    have h1 : ¬ k' = k := by simpa using hne
    have h2 : q.1 = k := by simpa using hq
    simp only [Bool.true_and, bne_iff_ne, ne_eq, h2]
    exact fun e => h1 e.symm

theorem find?_congr_filter {α} {p : α → Bool} {l l' : List α} (h : l'.filter p = l.filter p) : l'.find? p = l.find? p := by
  rw [← List.head?_filter, ← List.head?_filter, h]

/-- the browse of `ty` is running on `ch` -/
def Running (ty : BList) (ch : Nat) (s : State) : Prop := s.queriers.find? (·.1 == ty) = some (ty, ch)

/-- the hostname search for `key` is open on `ch` with deadline `dl` -/
def Searching (key : BList) (ch : Nat) (dl : Option Nat) (s : State) : Prop :=
  s.resolvers.find? (·.1 == key) = some (key, ch, dl)

/-- true exactly for the commands that browse or stop `ty` -/
def touchesType (ty : BList) : Command → Bool
  | .browse t _ _ => t == ty
  | .stopBrowse t => t == ty
  | _ => false

/-- true exactly for the commands that search or stop the host name `key` (a lower-cased name) -/
def touchesHost (key : BList) : Command → Bool
  | .resolveHost h _ _ => lower h == key
  | .stopResolve h => lower h == key
  | _ => false

theorem queriers_filter_execCommand (ty : BList) (s : State) (now : Nat) (c : Command) (hc : touchesType ty c = false) :
    (execCommand s now c).1.queriers.filter (·.1 == ty) = s.queriers.filter (·.1 == ty) := by
  rcases execCommand_browses s now c with ⟨ty', ch', co, rfl⟩ | ⟨ty', rfl⟩ | ⟨e1, _⟩
  · have hne : (ty' == ty) = false := hc
    rw [execCommand_browse_queriers, List.filter_cons, if_neg (by simp [hne]), filter_key_filter_ne hne]
  · have hne : (ty' == ty) = false := hc
    simp only [execCommand, execStopBrowse]
    split
    · rfl
    · exact filter_key_filter_ne hne _
  · rw [e1]

theorem queriers_filter_runCommands (ty : BList) (now : Nat) (l : List Command) (s : State)
    (hc : ∀ c ∈ l, touchesType ty c = false) :
    (runCommands s now l).1.queriers.filter (·.1 == ty) = s.queriers.filter (·.1 == ty) :=
  runCommands_induct (P := fun s' => s'.queriers.filter (·.1 == ty) = s.queriers.filter (·.1 == ty)) now
    (fun s' c hc hp => (queriers_filter_execCommand ty s' now c hc).trans hp) l s hc rfl

theorem running_runCommands (ty : BList) (ch : Nat) (now : Nat) (l : List Command) (s : State)
    (hc : l.all (fun c => !touchesType ty c) = true) (h : Running ty ch s) : Running ty ch (runCommands s now l).1 :=
  (find?_congr_filter (queriers_filter_runCommands ty now l s
    fun c hm => by simpa using List.all_eq_true.mp hc c hm)).trans h

theorem running_preCommands (ty : BList) (ch : Nat) (s : State) (now : Nat) (pkts : List Packet) (h : Running ty ch s) :
    Running ty ch (preCommands s now pkts) := by
  unfold Running
  rw [preCommands_queriers]
  exact h

theorem running_tail (ty : BList) (ch : Nat) (x : State) (now : Nat) (post : List Command)
    (hc : post.all (fun c => !touchesType ty c) = true) (h : Running ty ch x) :
    Running ty ch (runIpCheck (tailState x now post) now) := by
  unfold Running
  rw [(same_tail x now post).queriers]
  exact running_runCommands ty ch now post x hc h

theorem running_iter (ty : BList) (ch : Nat) (s : State) (now : Nat) (pkts : List Packet) (cmds : List Command)
    (hc : cmds.all (fun c => !touchesType ty c) = true) (h : Running ty ch s) : Running ty ch (Client.iter s now pkts cmds).1 := by
  rw [(iter_tail s now pkts cmds).1]
  exact running_tail ty ch _ now cmds hc (running_preCommands ty ch s now pkts h)

/-- a command is a `resolve_hostname`, or a `stop_resolve_hostname`, or it leaves the hostname
    searches as they are -/
theorem execCommand_hosts (s : State) (now : Nat) (c : Command) :
    (∃ h0 ch t, c = .resolveHost h0 ch t) ∨ (∃ h0, c = .stopResolve h0) ∨ (execCommand s now c).1.resolvers = s.resolvers := by
  cases c with
  | resolveHost h0 ch t => exact Or.inl ⟨h0, ch, t, rfl⟩
  | stopResolve h0 => exact Or.inr (Or.inl ⟨h0, rfl⟩)
  | browse ty ch co => exact Or.inr (Or.inr (execBrowse_resolvers s now false ty 1 co ch))
  | stopBrowse ty =>
    refine Or.inr (Or.inr ?_)
    simp only [execCommand, execStopBrowse]
    split <;> rfl
  | verify inst t => exact Or.inr (Or.inr (execVerify_resolvers s now false inst t))
  | ipInterval ms => exact Or.inr (Or.inr rfl)
  | metrics ch => exact Or.inr (Or.inr rfl)
  | acceptUnsolicited on => exact Or.inr (Or.inr rfl)

theorem resolvers_filter_execCommand (key : BList) (s : State) (now : Nat) (c : Command) (hc : touchesHost key c = false) :
    (execCommand s now c).1.resolvers.filter (·.1 == key) = s.resolvers.filter (·.1 == key) := by
  rcases execCommand_hosts s now c with ⟨h0, ch', t, rfl⟩ | ⟨h0, rfl⟩ | e
  · have hne : (lower h0 == key) = false := hc
    show (execResolveHost s now false h0 1 ch' t).1.resolvers.filter _ = _
    rw [execResolveHost_new_resolvers, List.filter_cons, if_neg (by simp [hne]), filter_key_filter_ne hne]
  · have hne : (lower h0 == key) = false := hc
    simp only [execCommand, execStopResolve]
    split
    · rfl
    · exact filter_key_filter_ne hne _
  · rw [e]

theorem resolvers_filter_runCommands (key : BList) (now : Nat) (l : List Command) (s : State)
    (hc : ∀ c ∈ l, touchesHost key c = false) :
    (runCommands s now l).1.resolvers.filter (·.1 == key) = s.resolvers.filter (·.1 == key) :=
  runCommands_induct (P := fun s' => s'.resolvers.filter (·.1 == key) = s.resolvers.filter (·.1 == key)) now
    (fun s' c hc hp => (resolvers_filter_execCommand key s' now c hc).trans hp) l s hc rfl

theorem searching_runCommands (key : BList) (ch : Nat) (dl : Option Nat) (now : Nat) (l : List Command) (s : State)
    (hc : l.all (fun c => !touchesHost key c) = true) (h : Searching key ch dl s) :
    Searching key ch dl (runCommands s now l).1 :=
  (find?_congr_filter (resolvers_filter_runCommands key now l s
    fun c hm => by simpa using List.all_eq_true.mp hc c hm)).trans h

/-- the search survives the time-out phase while its deadline has not been reached -/
theorem searching_preCommands (key : BList) (ch : Nat) (dl : Option Nat) (s : State) (now : Nat) (pkts : List Packet)
    (hdl : ∀ t, dl = some t → now < t) (h : Searching key ch dl s) : Searching key ch dl (preCommands s now pkts) := by
  unfold Searching at *
  rw [preCommands_resolvers]
  apply find_filter_first _ _ _ ?_ s.resolvers h
  cases dl with
  | none => rfl
  | some t =>
    have := hdl t rfl
    simp only [Bool.not_eq_true', decide_eq_false_iff_not]
    omega

theorem searching_tail (key : BList) (ch : Nat) (dl : Option Nat) (x : State) (now : Nat) (post : List Command)
    (hc : post.all (fun c => !touchesHost key c) = true) (h : Searching key ch dl x) :
    Searching key ch dl (runIpCheck (tailState x now post) now) := by
  unfold Searching
  rw [(same_tail x now post).resolvers]
  exact searching_runCommands key ch dl now post x hc h

theorem searching_iter (key : BList) (ch : Nat) (dl : Option Nat) (s : State) (now : Nat) (pkts : List Packet)
    (cmds : List Command) (hc : cmds.all (fun c => !touchesHost key c) = true) (hdl : ∀ t, dl = some t → now < t)
    (h : Searching key ch dl s) : Searching key ch dl (Client.iter s now pkts cmds).1 := by
  rw [(iter_tail s now pkts cmds).1]
  exact searching_tail key ch dl _ now cmds hc (searching_preCommands key ch dl s now pkts hdl h)

end Mdns.Client
