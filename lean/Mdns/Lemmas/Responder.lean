import Mdns.Lemmas.ResponderSteps
/-
  Lemmas about the responder model.  First what the model's functions do: the per-probe schedule
  (`Probe.trace`, three queries whatever the scheduler), `Probe.join`, what the registry operations
  leave untouched (`RegLe`, `NoRen`), `check_probing` per probe, what `prepare_announce` leaves in
  the registry (`Held`), the goodbye packets, the end of a probe and the times of the probes a
  registration creates.  Then the invariant `Inv` ("status Announced on an interface ⇒ the unique
  records of the service are active there") and its passage through registration, unregister
  (`purgeWaiting`), the re-runs, `probing_handler`, queries and one iteration (`iter_inv`, `run_inv`).
  Last the sample interfaces and services of the `example`s.
-/
namespace Mdns.Responder
open Mdns

/-! ### the per-probe schedule -/

/-- what a probe does over a sequence of iteration times (non-idle actions, up to its end) -/
def Probe.trace (p : Probe) : List Nat → List (Nat × ProbeAction)
  | [] => []
  | t :: ts =>
    match p.action t with
    | .idle => p.trace ts
    | .send => (t, .send) :: (p.step t).trace ts
    | .expire => [(t, .expire)]

theorem Probe.expired_iff (p : Probe) (t : Nat) : p.expired t = true ↔ t ≥ p.start + 750 ∧ p.next ≥ p.start + 750 := by
  simp [Probe.expired]

theorem Probe.action_eq (p : Probe) (t : Nat) :
    p.action t = if t ≥ p.next then (if t ≥ p.start + 750 ∧ p.next ≥ p.start + 750 then .expire else .send) else .idle := by
  simp [Probe.action, Probe.expired]

theorem Probe.trace_skip (p : Probe) (pre rest : List Nat) (h : ∀ t ∈ pre, t < p.next) :
    p.trace (pre ++ rest) = p.trace rest := by
  induction pre with
  | nil => rfl
  | cons t pre ih =>
    rw [List.cons_append, Probe.trace, Probe.action_eq, if_neg (Nat.not_le.mpr (h t List.mem_cons_self))]
    exact ih (fun x hx => h x (List.mem_cons_of_mem _ hx))

theorem Probe.trace_send (p : Probe) (rest : List Nat) (h2 : p.next < p.start + 750) :
    p.trace (p.next :: rest) = (p.next, .send) :: ({ p with next := p.next + 250 } : Probe).trace rest := by
  have ha : p.action p.next = .send := by
    rw [Probe.action_eq, if_pos (Nat.le_refl _), if_neg (fun h => absurd h.2 (Nat.not_le.mpr h2))]
  simp [Probe.trace, Probe.step, ha]

theorem Probe.trace_expire (p : Probe) (t : Nat) (rest : List Nat) (h1 : t ≥ p.next) (h3 : p.next ≥ p.start + 750) :
    p.trace (t :: rest) = [(t, .expire)] := by
  rw [Probe.trace, Probe.action_eq, if_pos h1, if_pos ⟨Nat.le_trans h3 h1, h3⟩]

/-! ### three queries whatever the scheduler (repair of D31) -/

/-- the probe has sent `k` of its three queries: `next_send` is `k` steps of 250 ms after the
    start (the start moves with every late query, so this holds whenever the queries went out) -/
def Probe.Sent (p : Probe) (k : Nat) : Prop := p.next = p.start + 250 * k ∧ k ≤ 3

theorem Probe.Sent.new (T : Nat) : (Probe.new T).Sent 0 := ⟨rfl, by omega⟩

theorem Probe.Sent.action {p : Probe} {k : Nat} (h : p.Sent k) (t : Nat) :
    p.action t = if t ≥ p.next then (if k = 3 then .expire else .send) else .idle := by
  obtain ⟨h1, h2⟩ := h
  rw [Probe.action_eq]
  by_cases ht : t ≥ p.next
  · rw [if_pos ht, if_pos ht]
    by_cases hk : k = 3
    · rw [if_pos hk, if_pos (by omega)]
    · rw [if_neg hk, if_neg (by omega)]
  · rw [if_neg ht, if_neg ht]

theorem Probe.Sent.step {p : Probe} {k : Nat} (h : p.Sent k) (hk : k ≠ 3) {t : Nat} (ht : t ≥ p.next) :
    (p.step t).Sent (k + 1) ∧ (p.step t).next = t + 250 := by
  have ha : p.action t = .send := by rw [h.action t]; simp [ht, hk]
  unfold Probe.step
  rw [ha]
  refine ⟨⟨?_, by have := h.2; omega⟩, rfl⟩
  show t + 250 = p.start + (t - p.next) + 250 * (k + 1)
  have := h.1
  omega

/-- the times of the queries in a trace -/
def sendTimes (tr : List (Nat × ProbeAction)) : List Nat :=
  tr.filterMap fun e => if e.2 == .send then some e.1 else none

/-- the time the probe ended, if it did -/
def endTime (tr : List (Nat × ProbeAction)) : Option Nat :=
  tr.findSome? fun e => if e.2 == .expire then some e.1 else none

/-- A probe that has sent `k` queries, looked at at ANY
    instants `ts` (any order, any gaps), sends at most `3 - k` more, none before it is due, each at
    least 250 ms after the one before; and if it ends, it has sent all three and ends at least
    250 ms after the last. -/
theorem Probe.trace_three : ∀ (ts : List Nat) (p : Probe) (k : Nat), p.Sent k →
    (sendTimes (p.trace ts)).length + k ≤ 3 ∧ (∀ x ∈ sendTimes (p.trace ts), p.next ≤ x) ∧
    (sendTimes (p.trace ts)).Pairwise (fun a b => a + 250 ≤ b) ∧
    (∀ te, endTime (p.trace ts) = some te →
      (sendTimes (p.trace ts)).length + k = 3 ∧ p.next ≤ te ∧ ∀ x ∈ sendTimes (p.trace ts), x + 250 ≤ te) := by
  intro ts
  induction ts with
  | nil => exact fun p k h => ⟨(Nat.zero_add k).symm ▸ h.2, nofun, List.Pairwise.nil, nofun⟩
  | cons t ts ih =>
    intro p k h
    have ha := h.action t
    by_cases ht : t ≥ p.next
    · rw [if_pos ht] at ha
      by_cases hk : k = 3
      · rw [if_pos hk] at ha
        rw [Probe.trace, ha]
        -- the probe ends here: `[(t, .expire)]` has no send, and its end time is `t`
        refine ⟨(Nat.zero_add k).symm ▸ h.2, nofun, List.Pairwise.nil, fun te hte => ?_⟩
        cases hte
        exact ⟨(Nat.zero_add k).trans hk, ht, nofun⟩
      · rw [if_neg hk] at ha
        obtain ⟨hs, hn⟩ := h.step hk ht
        obtain ⟨i1, i2, i3, i4⟩ := ih (p.step t) (k + 1) hs
        rw [Probe.trace, ha]
        -- one more send at `t`, then the trace of the stepped probe, whose next send is `t + 250`
        show ((t :: sendTimes ((p.step t).trace ts)).length + k ≤ 3) ∧ (∀ x ∈ t :: sendTimes ((p.step t).trace ts), p.next ≤ x) ∧
          (t :: sendTimes ((p.step t).trace ts)).Pairwise (fun a b => a + 250 ≤ b) ∧
          ∀ te, endTime ((p.step t).trace ts) = some te →
            (t :: sendTimes ((p.step t).trace ts)).length + k = 3 ∧ p.next ≤ te ∧ ∀ x ∈ t :: sendTimes ((p.step t).trace ts), x + 250 ≤ te
        rw [hn] at i2 i4
        have hle : p.next ≤ t + 250 := Nat.le_trans ht (Nat.le_add_right t 250)
        have hlen : ∀ n : Nat, n + 1 + k = n + (k + 1) := fun n => by rw [Nat.add_assoc, Nat.add_comm 1 k]
        refine ⟨(hlen _).symm ▸ i1, List.forall_mem_cons.mpr ⟨ht, fun x hx => Nat.le_trans hle (i2 x hx)⟩,
          List.pairwise_cons.mpr ⟨i2, i3⟩, fun te hte => ?_⟩
        obtain ⟨j1, j2, j3⟩ := i4 te hte
        exact ⟨(hlen _).trans j1, Nat.le_trans hle j2, List.forall_mem_cons.mpr ⟨j2, j3⟩⟩
    · rw [if_neg ht] at ha
      rw [Probe.trace, ha]
      exact ih p k h

/-! ### a record comes to a probe -/

theorem Probe.join_eq (p : Probe) (a : RR) (n : BList) (t : Nat) :
    p.join a n t =
      { records := if p.records.any (a.matchesRR ·) then p.records else insertRR a p.records,
        waiting := sinsert n p.waiting,
        start := if p.restarts a t then t else p.start,
        next := if p.restarts a t then t else p.next } := by
  unfold Probe.join Probe.restarts
  cases p.records.any (a.matchesRR ·)
  · by_cases h : p.start < p.next
    · simp only [Bool.false_eq_true, ↓reduceIte, h, Bool.not_false, decide_true, Bool.and_self]
    · simp only [Bool.false_eq_true, ↓reduceIte, h, Bool.not_false, decide_false, Bool.and_false]
  · rfl

theorem Probe.join_records (p : Probe) (a : RR) (n : BList) (t : Nat) :
    (p.join a n t).records = if p.records.any (a.matchesRR ·) then p.records else insertRR a p.records := by
  rw [Probe.join_eq]

theorem Probe.join_waiting (p : Probe) (a : RR) (n : BList) (t : Nat) : (p.join a n t).waiting = sinsert n p.waiting := by
  rw [Probe.join_eq]

theorem Probe.join_times (p : Probe) (a : RR) (n : BList) (t : Nat) :
    ((p.join a n t).start = p.start ∧ (p.join a n t).next = p.next ∧ p.restarts a t = false) ∨
    ((p.join a n t).start = t ∧ (p.join a n t).next = t ∧ p.restarts a t = true) := by
  rw [Probe.join_eq]
  cases p.restarts a t
  · exact Or.inl ⟨rfl, rfl, rfl⟩
  · exact Or.inr ⟨rfl, rfl, rfl⟩

theorem Probe.join_records_mono (p : Probe) (a : RR) (n : BList) (t : Nat) : ∀ x ∈ p.records, x ∈ (p.join a n t).records := by
  intro x hx
  rw [Probe.join_records]
  split
  · exact hx
  · exact (mem_insertRR a x _).mpr (Or.inr hx)

theorem Probe.join_records_mem (p : Probe) (a : RR) (n : BList) (t : Nat) :
    ∀ x ∈ (p.join a n t).records, x = a ∨ x ∈ p.records := by
  intro x hx
  rw [Probe.join_records] at hx
  split at hx
  · exact Or.inr hx
  · exact (mem_insertRR a x _).mp hx

/-! ### frame lemmas of the registry operations -/

/-- `r'` has the same name changes as `r` and every record active in `r` is active in `r'` -/
def RegLe (r r' : Registry) : Prop := r'.nameChanges = r.nameChanges ∧ ∀ a, r.isActive a = true → r'.isActive a = true

theorem RegLe.refl (r : Registry) : RegLe r r := ⟨rfl, fun _ h => h⟩

theorem RegLe.trans {a b c : Registry} (h1 : RegLe a b) (h2 : RegLe b c) : RegLe a c :=
  ⟨h2.1.trans h1.1, fun x hx => h2.2 x (h1.2 x hx)⟩

theorem RegLe.of_eq {r r' : Registry} (ha : r'.active = r.active) (hn : r'.nameChanges = r.nameChanges) : RegLe r r' :=
  ⟨hn, fun a h => by simpa [Registry.isActive, ha] using h⟩

theorem probeInsert_active (r : Registry) (a : RR) (n : BList) (t : Nat) : (r.probeInsert a n t).active = r.active := rfl
theorem probeInsert_nameChanges (r : Registry) (a : RR) (n : BList) (t : Nat) :
    (r.probeInsert a n t).nameChanges = r.nameChanges := rfl

theorem prepareAnnounceReg_active (s : Service) (i : MyIntf) (r : Registry) (v4 : Bool) (now j : Nat) :
    (prepareAnnounceReg s i r v4 now j).active = r.active ∧ (prepareAnnounceReg s i r v4 now j).nameChanges = r.nameChanges :=
  prepareAnnounceReg_ind (P := fun x => x.active = r.active ∧ x.nameChanges = r.nameChanges) s i v4 now j ⟨rfl, rfl⟩
    (fun _ _ _ _ hb => hb)

theorem isActive_congr {r r' : Registry} (ha : r'.active = r.active) (a : RR) : r'.isActive a = r.isActive a := by
  simp [Registry.isActive, ha]

theorem uniqueRecords_congr {r r' : Registry} (hn : r'.nameChanges = r.nameChanges) (s : Service) (i : MyIntf) (v4 : Bool) :
    uniqueRecords s i r' v4 = uniqueRecords s i r v4 := by
  simp [uniqueRecords, Registry.resolveName, hn]

theorem prepareAnnouncePkt_congr {r r' : Registry} (ha : r'.active = r.active) (hn : r'.nameChanges = r.nameChanges)
    (s : Service) (i : MyIntf) (v4 : Bool) : prepareAnnouncePkt s i r' v4 = prepareAnnouncePkt s i r v4 := by
  have h1 : r'.isActive = r.isActive := funext (isActive_congr ha)
  simp [prepareAnnouncePkt, uniqueRecords_congr hn, Registry.resolveName, hn, h1]

theorem prepareAnnouncePkt_some {s : Service} {i : MyIntf} {r : Registry} {v4 : Bool} {p : Packet}
    (h : prepareAnnouncePkt s i r v4 = some p) :
    addrsOn s i v4 ≠ [] ∧ (s.probe = true → ∀ a ∈ uniqueRecords s i r v4, r.isActive a = true) ∧
    p.answers = ptrRecords s (r.resolveName s.fullname) TTL_OTHER ++ uniqueRecords s i r v4 ∧
    p.flags = FLAGS_RESPONSE ∧ p.questions = [] ∧ p.authorities = [] ∧ p.additionals = [] := by
  unfold prepareAnnouncePkt at h
  split at h
  · exact absurd h (by simp)
  · rename_i hne
    split at h
    · rename_i hc
      refine ⟨hne, ?_, ?_⟩
      · intro hp a ha
        simp only [hp, Bool.not_true, Bool.false_or, List.all_eq_true] at hc
        exact hc a ha
      · cases h; exact ⟨rfl, rfl, rfl, rfl, rfl⟩
    · exact absurd h (by simp)

/-! ### no renames without conflicts -/

/-- no name change is recorded and no probing record carries a new name (true as long as no
    response conflicts with a probe) -/
def NoRen (r : Registry) : Prop :=
  r.nameChanges = [] ∧ ∀ n p, (n, p) ∈ r.probing → ∀ a ∈ p.records, a.newName = none

theorem NoRen.empty : NoRen {} := ⟨rfl, fun _ _ h => by simp at h⟩

theorem NoRen.lookup {r : Registry} (h : NoRen r) {k : BList} {p : Probe} (hl : alookup k r.probing = some p) :
    ∀ a ∈ p.records, a.newName = none := h.2 k p (alookup_mem hl)

theorem NoRen.aset {r : Registry} (h : NoRen r) (k : BList) {p : Probe} (hp : ∀ a ∈ p.records, a.newName = none) :
    NoRen { r with probing := aset k p r.probing } :=
  ⟨h.1, fun k' p' hm x hx => (mem_aset hm).elim (fun heq => by cases heq; exact hp x hx) (fun hold => h.2 k' p' hold x hx)⟩

theorem NoRen.renamed_nil {r : Registry} (h : NoRen r) {k : BList} {p : Probe} (hl : alookup k r.probing = some p) :
    p.records.filter (·.newName.isSome) = [] :=
  List.filter_eq_nil_iff.mpr fun a ha => by simp [h.lookup hl a ha]

theorem uniqueRecords_newName (s : Service) (i : MyIntf) (r : Registry) (v4 : Bool) (h : r.nameChanges = []) :
    ∀ a ∈ uniqueRecords s i r v4, a.newName = none := by
  intro a ha
  simp only [uniqueRecords, h, alookup, withChange, List.cons_append, List.nil_append, List.mem_cons, List.mem_map] at ha
  rcases ha with rfl | rfl | ⟨ip, _, rfl⟩ <;> rfl

theorem probeInsert_noRen {r : Registry} (h : NoRen r) (a : RR) (ha : a.newName = none) (n : BList) (t : Nat) :
    NoRen (r.probeInsert a n t) := by
  refine h.aset _ fun x hx => ?_
  rcases Probe.join_records_mem _ a n t x hx with rfl | hx
  · exact ha
  · cases hl : alookup a.getName r.probing with
    | none => rw [hl] at hx; cases hx
    | some q => rw [hl] at hx; exact h.lookup hl x hx

theorem prepareAnnounceReg_noRen {r : Registry} (h : NoRen r) (s : Service) (i : MyIntf) (v4 : Bool) (now j : Nat) :
    NoRen (prepareAnnounceReg s i r v4 now j) :=
  prepareAnnounceReg_ind s i v4 now j h
    (fun _ a ha _ hb => probeInsert_noRen hb a (uniqueRecords_newName s i r v4 h.1 a ha) _ _)

theorem tiebreak_active (now : Nat) (auths : List Wire.Rec) (reg : Registry) (q : Wire.Question) :
    (tiebreak now auths reg q).active = reg.active ∧ (tiebreak now auths reg q).nameChanges = reg.nameChanges := by
  rcases tiebreak_cases now auths reg q with e | ⟨k, p, _, _, e⟩
  · rw [e]
    exact ⟨rfl, rfl⟩
  · rw [e]
    exact ⟨rfl, rfl⟩

theorem tiebreak_noRen {reg : Registry} (h : NoRen reg) (now : Nat) (auths : List Wire.Rec) (q : Wire.Question) :
    NoRen (tiebreak now auths reg q) := by
  rcases tiebreak_cases now auths reg q with e | ⟨k, p, _, hl, e⟩ <;> rw [e]
  · exact h
  · exact h.aset k (fun a ha => h.lookup hl a ha)

theorem Probe.step_records (p : Probe) (now : Nat) : (p.step now).records = p.records := by
  unfold Probe.step; split <;> rfl

theorem checkProbing_noRen {r : Registry} (h : NoRen r) (now : Nat) : NoRen (checkProbing r now).reg := by
  refine ⟨h.1, ?_⟩
  intro k p hm x hx
  simp only [checkProbing, List.mem_map] at hm
  obtain ⟨⟨n, q⟩, hq, heq⟩ := hm
  have hp : p = q.step now := ((Prod.mk.inj heq).2).symm
  rw [hp, Probe.step_records] at hx
  exact h.2 n q hq x hx

theorem isActive_aset_append (r : Registry) (name : BList) (recs : List RR) (a : RR) (h : r.isActive a = true) :
    ({ r with active := aset name ((alookup name r.active).getD [] ++ recs) r.active } : Registry).isActive a = true := by
  unfold Registry.isActive at *
  by_cases hn : a.getName = name
  · simp only [hn, alookup_aset_self, Option.getD_some, List.any_append, Bool.or_eq_true]
    left
    simpa [hn] using h
  · simpa [alookup_aset_ne _ _ _ _ hn] using h

theorem expireProbe_spec (intfName : BList) (acc : Registry × List Event × List BList) (name : BList)
    (h : NoRen acc.1) : NoRen (expireProbe intfName acc name).1 ∧ RegLe acc.1 (expireProbe intfName acc name).1 := by
  unfold expireProbe
  split
  · exact ⟨h, RegLe.refl _⟩
  · rename_i p hl
    simp only [h.renamed_nil hl, List.foldl_nil, List.map_nil, List.append_nil]
    have hnr1 : NoRen ({ acc.1 with probing := aerase name acc.1.probing } : Registry) :=
      ⟨h.1, fun k q hm x hx => h.2 k q (mem_aerase hm) x hx⟩
    split
    · exact ⟨hnr1, RegLe.of_eq rfl rfl⟩
    · refine ⟨⟨h.1, fun k q hm x hx => h.2 k q (mem_aerase hm) x hx⟩, rfl, ?_⟩
      intro a ha
      exact isActive_aset_append ({ acc.1 with probing := aerase name acc.1.probing }) name p.records a
        (by simpa [Registry.isActive] using ha)

theorem handleExpiredProbes_spec (expired : List BList) (intfName : BList) (r : Registry) (h : NoRen r) :
    NoRen (handleExpiredProbes expired intfName r).1 ∧ RegLe r (handleExpiredProbes expired intfName r).1 := by
  unfold handleExpiredProbes
  exact foldl_inv (fun acc => NoRen acc.1 ∧ RegLe r acc.1) (expireProbe intfName) expired (r, [], []) ⟨h, RegLe.refl r⟩
    (fun acc n _ hacc => ⟨(expireProbe_spec intfName acc n hacc.1).1, hacc.2.trans (expireProbe_spec intfName acc n hacc.1).2⟩)

/-! ### `check_probing` per probe -/

theorem checkProbing_sends {r : Registry} {now : Nat} {n : BList} {p : Probe} (hm : (n, p) ∈ r.probing)
    (ha : p.action now = .send) :
    (n, TYPE_ANY) ∈ (checkProbing r now).questions ∧ (∀ a ∈ p.records, a ∈ (checkProbing r now).authorities) ∧
    (now + 250) ∈ (checkProbing r now).timers ∧
    (n, { p with start := p.start + (now - p.next), next := now + 250 }) ∈ (checkProbing r now).reg.probing := by
  have hf : (n, p) ∈ r.probing.filter (fun e => e.2.action now == .send) := by
    simp [List.mem_filter, hm, ha]
  refine ⟨?_, ?_, ?_, ?_⟩
  · simp only [checkProbing, List.mem_map]
    exact ⟨(n, p), hf, rfl⟩
  · intro a har
    simp only [checkProbing, List.mem_flatMap]
    exact ⟨(n, p), hf, har⟩
  · simp only [checkProbing, List.mem_map]
    exact ⟨(n, p), hf, trivial⟩
  · simp only [checkProbing, List.mem_map]
    exact ⟨(n, p), hm, by simp [Probe.step, ha]⟩

theorem checkProbing_question {r : Registry} {now : Nat} {n : BList} {t : Nat}
    (h : (n, t) ∈ (checkProbing r now).questions) : t = TYPE_ANY ∧ ∃ p, (n, p) ∈ r.probing ∧ p.action now = .send := by
  simp only [checkProbing, List.mem_map, List.mem_filter] at h
  obtain ⟨⟨n', p⟩, ⟨hm, ha⟩, heq⟩ := h
  obtain ⟨h1, h2⟩ := Prod.mk.inj heq
  subst h1
  exact ⟨h2.symm, p, hm, by simpa using ha⟩

theorem checkProbing_expired {r : Registry} {now : Nat} {n : BList} (h : n ∈ (checkProbing r now).expired) :
    ∃ p, (n, p) ∈ r.probing ∧ now ≥ p.next ∧ now ≥ p.start + 750 ∧ p.next ≥ p.start + 750 := by
  simp only [checkProbing, List.mem_map, List.mem_filter] at h
  obtain ⟨⟨n', p⟩, ⟨hm, ha⟩, heq⟩ := h
  subst heq
  refine ⟨p, hm, ?_⟩
  simp only [Probe.action, beq_iff_eq] at ha
  split at ha
  · split at ha
    · rename_i h1 h2
      exact ⟨h1, ((Probe.expired_iff p now).mp h2).1, ((Probe.expired_iff p now).mp h2).2⟩
    · cases ha
  · cases ha

/-! ### what `prepare_announce` leaves in the registry -/

/-- the record is active, or a matching record is being probed under its name with the
    service waiting for that probe -/
def Held (r : Registry) (a : RR) (svcName : BList) : Prop :=
  r.isActive a = true ∨
  ∃ p, alookup a.getName r.probing = some p ∧ p.records.any (a.matchesRR ·) = true ∧ svcName ∈ p.waiting

theorem RR.matchesRR_self (a : RR) : a.matchesRR a = true := by simp [RR.matchesRR]

theorem probingDoneReg_held (r : Registry) (a : RR) (n : BList) (t : Nat) : Held (r.probingDoneReg a n t) a n := by
  unfold Registry.probingDoneReg
  split
  · exact Or.inl (by assumption)
  · right
    simp only [Registry.probeInsert, alookup_aset_self]
    refine ⟨_, rfl, ?_, ?_⟩
    · rw [Probe.join_records]
      split
      · assumption
      · simp only [List.any_eq_true]
        exact ⟨a, (mem_insertRR a a _).mpr (Or.inl rfl), RR.matchesRR_self a⟩
    · rw [Probe.join_waiting]
      exact (mem_sinsert n n _).mpr (Or.inl rfl)

theorem probingDoneReg_keeps_held (r : Registry) (a b : RR) (n : BList) (t : Nat) (h : Held r b n) :
    Held (r.probingDoneReg a n t) b n := by
  unfold Registry.probingDoneReg
  split
  · exact h
  · rcases h with h | ⟨p, hl, hany, hw⟩
    · exact Or.inl (by simpa [Registry.isActive, Registry.probeInsert] using h)
    · right
      by_cases e : b.getName = a.getName
      · simp only [Registry.probeInsert, e, alookup_aset_self]
        rw [e] at hl
        refine ⟨_, rfl, ?_, ?_⟩
        · simp only [hl, Option.getD_some]
          simp only [List.any_eq_true] at hany ⊢
          obtain ⟨x, hx, hmx⟩ := hany
          exact ⟨x, Probe.join_records_mono p a n t x hx, hmx⟩
        · simp only [hl, Option.getD_some]
          rw [Probe.join_waiting]
          exact (mem_sinsert n n _).mpr (Or.inr hw)
      · refine ⟨p, ?_, hany, hw⟩
        simp only [Registry.probeInsert]
        rw [alookup_aset_ne _ _ _ _ e]
        exact hl

theorem foldl_probingDone_held (l : List RR) (r : Registry) (n : BList) (t : Nat) :
    ∀ a ∈ l, Held (l.foldl (fun r a => r.probingDoneReg a n t) r) a n := by
  induction l generalizing r with
  | nil => intro a ha; simp at ha
  | cons x l ih =>
    intro a ha
    simp only [List.foldl_cons]
    rcases List.mem_cons.mp ha with rfl | hin
    · exact foldl_inv (fun reg => Held reg a n) _ l _ (probingDoneReg_held r a n t)
        (fun b y _ hb => probingDoneReg_keeps_held b y a n t hb)
    · exact ih _ a hin

/-- After `prepare_announce` for a service that requires probing, every unique record of
    the service (SRV, TXT, each in-subnet address of the family) is active or sits in the
    probe of its name, and the service waits for that probe. -/
theorem prepare_registers_all (s : Service) (i : MyIntf) (r : Registry) (v4 : Bool) (now j : Nat)
    (hp : s.probe = true) (hne : addrsOn s i v4 ≠ []) :
    ∀ a ∈ uniqueRecords s i r v4, Held (prepareAnnounceReg s i r v4 now j) a s.fullname := by
  unfold prepareAnnounceReg
  simp only [hne, hp, ↓reduceIte, Bool.not_true, Bool.false_eq_true]
  exact foldl_probingDone_held _ r s.fullname (now + j)

/-- a probe that is created starts (and first sends) at the given time; a record that comes to
    an existing probe leaves the probe's times as they are when a matching record is there or the
    probe has not sent a query yet - otherwise the probe starts over at `t` (repair of D33) -/
theorem probeInsert_times (r : Registry) (a : RR) (n : BList) (t : Nat) :
    ∃ p, alookup a.getName (r.probeInsert a n t).probing = some p ∧
      (alookup a.getName r.probing = none → p.start = t ∧ p.next = t) ∧
      (∀ q, alookup a.getName r.probing = some q →
        (p.start = q.start ∧ p.next = q.next ∧ q.restarts a t = false) ∨ (p.start = t ∧ p.next = t ∧ q.restarts a t = true)) := by
  simp only [Registry.probeInsert, alookup_aset_self]
  refine ⟨_, rfl, ?_, ?_⟩
  · intro h
    rw [h, Option.getD_none, Probe.join_eq]
    cases (Probe.new t).restarts a t <;> exact ⟨rfl, rfl⟩
  · intro q h
    simp only [h, Option.getD_some]
    exact Probe.join_times q a n t

/-! ### goodbye packets -/

theorem alookup_isSome_iff {κ α : Type} [DecidableEq κ] (k : κ) (l : List (κ × α)) :
    (alookup k l).isSome = true ↔ ∃ v, (k, v) ∈ l := by
  refine ⟨fun h => ?_, fun ⟨v, hv⟩ => ?_⟩
  · obtain ⟨v, hv⟩ := Option.isSome_iff_exists.mp h
    exact ⟨v, alookup_mem hv⟩
  · cases hl : alookup k l with
    | some _ => rfl
    | none => exact absurd rfl (alookup_none_not_mem hl _ hv)

theorem goodbyePkt_spec {svc : Service} {i : MyIntf} {v4 : Bool} {p : Packet} (h : goodbyePkt svc i v4 = some p) :
    addrsOn svc i v4 ≠ [] ∧ p.id = 0 ∧ p.flags = FLAGS_RESPONSE ∧ p.questions = [] ∧ p.authorities = [] ∧ p.additionals = [] ∧
    p.answers = ptrRecords svc svc.fullname 0 ++
      [{ name := svc.fullname, ty := TYPE_SRV, flush := true, ttl := 0, rdata := .srv 0 0 svc.port svc.host },
       { name := svc.fullname, ty := TYPE_TXT, flush := true, ttl := 0, rdata := .txt svc.txt }] ++
      (addrsOn svc i v4).map fun ip =>
        { name := svc.host, ty := addrType ip, flush := true, ttl := 0, rdata := addrRData ip } := by
  unfold goodbyePkt at h
  split at h
  · exact absurd h (by simp)
  · rename_i hne
    cases h
    exact ⟨hne, rfl, rfl, rfl, rfl, rfl, rfl⟩

theorem goodbyePkt_ttl_zero {svc : Service} {i : MyIntf} {v4 : Bool} {p : Packet} (h : goodbyePkt svc i v4 = some p) :
    ∀ a ∈ p.answers, a.ttl = 0 ∧ a.newName = none := by
  intro a ha
  rw [(goodbyePkt_spec h).2.2.2.2.2.2] at ha
  simp only [ptrRecords, List.mem_append, List.mem_cons, List.mem_map, List.not_mem_nil, or_false] at ha
  rcases ha with ((rfl | hsub) | rfl | rfl) | ⟨ip, _, rfl⟩
  · exact ⟨rfl, rfl⟩
  · cases hs : svc.sub with
    | none => simp [hs] at hsub
    | some sub =>
      simp only [hs, List.mem_cons, List.not_mem_nil, or_false] at hsub
      subst hsub
      exact ⟨rfl, rfl⟩
  · exact ⟨rfl, rfl⟩
  · exact ⟨rfl, rfl⟩
  · exact ⟨rfl, rfl⟩

theorem goodbyePkt_isSome (svc : Service) (i : MyIntf) (v4 : Bool) :
    (goodbyePkt svc i v4).isSome = true ↔ addrsOn svc i v4 ≠ [] := by
  unfold goodbyePkt
  split <;> simp_all

theorem mem_goodbyesOn {svc : Service} {i : MyIntf} {v4 : Bool} {p : Packet} :
    (v4, p) ∈ goodbyesOn svc i ↔ goodbyePkt svc i v4 = some p := by
  unfold goodbyesOn
  -- the IPv4 half holds pairs `(true, _)` only, the IPv6 half pairs `(false, _)`: eight closed cases
  cases v4 <;> cases goodbyePkt svc i true <;> cases goodbyePkt svc i false <;> simp [eq_comm]

theorem mem_goodbyes {intfs : List MyIntf} {svc : Service} {idx : Nat} {v4 : Bool} {p : Packet} :
    (idx, v4, p) ∈ goodbyes intfs svc ↔ ∃ i ∈ intfs, i.index = idx ∧ goodbyePkt svc i v4 = some p := by
  simp only [goodbyes, List.mem_flatMap, List.mem_map]
  constructor
  · rintro ⟨i, hi, ⟨v, q⟩, hm, heq⟩
    cases heq
    exact ⟨i, hi, rfl, mem_goodbyesOn.mp hm⟩
  · rintro ⟨i, hi, rfl, hg⟩
    exact ⟨i, hi, (v4, p), mem_goodbyesOn.mpr hg, rfl⟩
theorem mem_goodbyes_announced {s : State} {svc : Service} {idx : Nat} {v4 : Bool} {p : Packet} :
    (idx, v4, p) ∈ goodbyes (announcedIntfs s svc) svc ↔
      ∃ i ∈ s.intfs, i.index = idx ∧ svc.announcedOn idx = true ∧ goodbyePkt svc i v4 = some p := by
  rw [mem_goodbyes]
  constructor
  · rintro ⟨i, hi, rfl, hp⟩
    exact ⟨i, (List.mem_filter.mp hi).1, rfl, (List.mem_filter.mp hi).2, hp⟩
  · rintro ⟨i, hi, rfl, ha, hp⟩
    exact ⟨i, List.mem_filter.mpr ⟨hi, ha⟩, rfl, hp⟩

/-! ### the end of a probe, and the times of the probes a registration creates -/

/-- when a probe ends (no rename pending), every record of it that is filed under the probe's
    name is active afterwards, and the probe is gone -/
theorem expireProbe_activates (intfName : BList) (acc : Registry × List Event × List BList) (name : BList) (p : Probe)
    (hl : alookup name acc.1.probing = some p) (hn : NoRen acc.1) :
    (∀ a ∈ p.records, a.getName = name → (expireProbe intfName acc name).1.isActive a = true) ∧
    alookup name (expireProbe intfName acc name).1.probing = none ∧
    (p.records ≠ [] → ∀ w ∈ p.waiting, w ∈ (expireProbe intfName acc name).2.2) := by
  unfold expireProbe
  simp only [hl, hn.renamed_nil hl, List.foldl_nil, List.map_nil, List.append_nil]
  by_cases he : p.records.isEmpty = true
  · simp only [he, ↓reduceIte]
    refine ⟨?_, alookup_aerase_self _ _, ?_⟩
    · intro a ha
      simp [List.isEmpty_iff.mp he] at ha
    · intro hne
      exact absurd (List.isEmpty_iff.mp he) hne
  · simp only [he, Bool.false_eq_true, ↓reduceIte]
    refine ⟨?_, alookup_aerase_self _ _, ?_⟩
    · intro a ha hname
      simp only [Registry.isActive, hname, alookup_aset_self, Option.getD_some, List.any_append, Bool.or_eq_true,
        List.any_eq_true]
      exact Or.inr ⟨a, ha, RR.matchesRR_self a⟩
    · intro _ w hw
      exact foldl_sinsert_mem w _ _ (Or.inl hw)

theorem Probe.restarts_spec {p : Probe} {a : RR} {t : Nat} (h : p.restarts a t = true) :
    p.records.any (a.matchesRR ·) = false ∧ p.start < p.next := by
  simpa [Probe.restarts] using h

theorem probeInsert_times_at (r : Registry) (a : RR) (svc : BList) (t : Nat) (n : BList) :
    (∀ q, alookup n r.probing = some q → ∃ p, alookup n (r.probeInsert a svc t).probing = some p ∧
      ((p.start = q.start ∧ p.next = q.next) ∨ (p.start = t ∧ p.next = t ∧ q.start < q.next))) ∧
    (alookup n r.probing = none → ∀ p, alookup n (r.probeInsert a svc t).probing = some p → p.start = t ∧ p.next = t) := by
  by_cases e : n = a.getName
  · subst e
    obtain ⟨p, hp, hnew, hold⟩ := probeInsert_times r a svc t
    refine ⟨fun q hq => ⟨p, hp, ?_⟩, fun hnone p' hp' => by rw [hp] at hp'; cases hp'; exact hnew hnone⟩
    rcases hold q hq with ⟨h1, h2, _⟩ | ⟨h1, h2, h3⟩
    · exact Or.inl ⟨h1, h2⟩
    · exact Or.inr ⟨h1, h2, (Probe.restarts_spec h3).2⟩
  · have hne : alookup n (r.probeInsert a svc t).probing = alookup n r.probing :=
      alookup_aset_ne _ _ _ _ e
    exact ⟨fun q hq => ⟨q, hne ▸ hq, Or.inl ⟨rfl, rfl⟩⟩, fun hnone p hp => by rw [hne, hnone] at hp; cases hp⟩

/-- every probe that `prepare_announce` creates (for a name that was not being probed) starts,
    and first sends, at `now + jitter`; a probe that existed keeps its times or - it had sent a
    query and a record joined it - starts over at `now + jitter` -/
theorem prepareAnnounceReg_times (s : Service) (i : MyIntf) (r : Registry) (v4 : Bool) (now j : Nat) (n : BList) :
    (alookup n r.probing = none → ∀ p, alookup n (prepareAnnounceReg s i r v4 now j).probing = some p →
      p.start = now + j ∧ p.next = now + j) ∧
    (∀ q, alookup n r.probing = some q → ∃ p, alookup n (prepareAnnounceReg s i r v4 now j).probing = some p ∧
      ((p.start = q.start ∧ p.next = q.next) ∨ (p.start = now + j ∧ p.next = now + j ∧ q.start < q.next))) := by
  -- an invariant of the loop over the unique records, by cases on whether the name was probed before
  cases hl : alookup n r.probing with
  | some q =>
    refine ⟨nofun, fun q' hq' => ?_⟩
    cases hq'
    exact prepareAnnounceReg_ind (P := fun b => ∃ p, alookup n b.probing = some p ∧
        ((p.start = q.start ∧ p.next = q.next) ∨ (p.start = now + j ∧ p.next = now + j ∧ q.start < q.next))) s i v4 now j
      ⟨q, hl, Or.inl ⟨rfl, rfl⟩⟩
      (fun b a _ _ ⟨p, hp, hor⟩ => by
        obtain ⟨p', hp', hor'⟩ := (probeInsert_times_at b a s.fullname (now + j) n).1 p hp
        refine ⟨p', hp', ?_⟩
        rcases hor' with ⟨h1', h2'⟩ | ⟨h1', h2', h3'⟩
        · rcases hor with ⟨h1, h2⟩ | ⟨h1, h2, h3⟩
          · exact Or.inl ⟨h1'.trans h1, h2'.trans h2⟩
          · exact Or.inr ⟨h1'.trans h1, h2'.trans h2, h3⟩
        · rcases hor with ⟨h1, h2⟩ | ⟨_, _, h3⟩
          · exact Or.inr ⟨h1', h2', by rw [← h1, ← h2]; exact h3'⟩
          · exact Or.inr ⟨h1', h2', h3⟩)
  | none =>
    refine ⟨fun _ => ?_, nofun⟩
    exact prepareAnnounceReg_ind (P := fun b => ∀ p, alookup n b.probing = some p → p.start = now + j ∧ p.next = now + j)
      s i v4 now j (fun p hp => by rw [hl] at hp; cases hp)
      (fun b a _ _ hb p hp => by
        cases hb' : alookup n b.probing with
        | none => exact (probeInsert_times_at b a s.fullname (now + j) n).2 hb' p hp
        | some q =>
          obtain ⟨p', hp', hor⟩ := (probeInsert_times_at b a s.fullname (now + j) n).1 q hb'
          rw [hp'] at hp
          cases hp
          rcases hor with ⟨h1, h2⟩ | ⟨h1, h2, _⟩
          · exact ⟨h1.trans (hb q hb').1, h2.trans (hb q hb').2⟩
          · exact ⟨h1, h2⟩)

/-! ### the state invariant -/

/-- For a service that requires probing: wherever its status is `Announced`, there is an
    interface with that index and an IP family in which the service has an in-subnet address
    and all its unique records (SRV, TXT, the addresses of that family) are active. -/
def SvcSound (s : State) (svc : Service) : Prop :=
  svc.probe = true → ∀ idx, svc.announcedOn idx = true →
    ∃ i ∈ s.intfs, i.index = idx ∧ ∃ v4, addrsOn svc i v4 ≠ [] ∧
      ∀ a ∈ uniqueRecords svc i (s.registry idx) v4, (s.registry idx).isActive a = true

/-- same interfaces; every registry keeps its name changes and its active records -/
def StLe (s s' : State) : Prop := s'.intfs = s.intfs ∧ ∀ idx, RegLe (s.registry idx) (s'.registry idx)

theorem StLe.refl (s : State) : StLe s s := ⟨rfl, fun _ => RegLe.refl _⟩
theorem StLe.trans {a b c : State} (h1 : StLe a b) (h2 : StLe b c) : StLe a c :=
  ⟨h2.1.trans h1.1, fun idx => (h1.2 idx).trans (h2.2 idx)⟩

theorem StLe.of_eq {s s' : State} (hi : s'.intfs = s.intfs) (hr : s'.registries = s.registries) : StLe s s' :=
  ⟨hi, fun idx => by simp [State.registry, hr, RegLe.refl]⟩

theorem StLe.setRegistry {s : State} {i : Nat} {r : Registry} (h : RegLe (s.registry i) r) : StLe s (s.setRegistry i r) := by
  refine ⟨rfl, fun idx => ?_⟩
  by_cases e : idx = i
  · subst e; rw [registry_setRegistry_self]; exact h
  · rw [registry_setRegistry_ne _ _ _ _ e]; exact RegLe.refl _

theorem SvcSound.mono {s s' : State} (hle : StLe s s') {svc : Service} (h : SvcSound s svc) : SvcSound s' svc := by
  intro hp idx ha
  obtain ⟨i, hi, hidx, v4, hne, hall⟩ := h hp idx ha
  refine ⟨i, hle.1 ▸ hi, hidx, v4, hne, ?_⟩
  intro a ha'
  rw [uniqueRecords_congr (hle.2 idx).1] at ha'
  exact (hle.2 idx).2 a (hall a ha')

/-- The invariant of histories WITHOUT a conflicting response (`Input.plain`): it contains `NoRen` for
    every registry, so it does not survive `conflict_handler` renaming a record. -/
structure Inv (s : State) : Prop where
  noRen : ∀ idx, NoRen (s.registry idx)
  sound : ∀ e ∈ s.services, SvcSound s e.2

theorem announcedOn_setStatus (svc : Service) (j k : Nat) (st : Status) :
    (svc.setStatus j st).announcedOn k = if k = j then decide (st = .announced) else svc.announcedOn k := by
  unfold Service.announcedOn Service.getStatus Service.setStatus
  by_cases h : k = j
  · subst h
    cases st <;> simp [alookup_aset_self]
  · simp [alookup_aset_ne _ _ _ _ h, h]

@[simp] theorem setStatus_probe (svc : Service) (j : Nat) (st : Status) : (svc.setStatus j st).probe = svc.probe := rfl
@[simp] theorem addrsOn_setStatus (svc : Service) (j : Nat) (st : Status) (i : MyIntf) (v4 : Bool) :
    addrsOn (svc.setStatus j st) i v4 = addrsOn svc i v4 := rfl
@[simp] theorem uniqueRecords_setStatus (svc : Service) (j : Nat) (st : Status) (i : MyIntf) (r : Registry) (v4 : Bool) :
    uniqueRecords (svc.setStatus j st) i r v4 = uniqueRecords svc i r v4 := rfl

theorem SvcSound.setStatus {s : State} {svc : Service} (j : Nat) (st : Status) (h : SvcSound s svc)
    (hnew : st = .announced → svc.probe = true → ∃ i ∈ s.intfs, i.index = j ∧ ∃ v4, addrsOn svc i v4 ≠ [] ∧
      ∀ a ∈ uniqueRecords svc i (s.registry j) v4, (s.registry j).isActive a = true) :
    SvcSound s (svc.setStatus j st) := by
  intro hp k hk
  rw [announcedOn_setStatus] at hk
  by_cases e : k = j
  · subst e
    rw [if_pos rfl] at hk
    exact hnew (of_decide_eq_true hk) hp
  · rw [if_neg e] at hk
    exact h hp k hk

/-- the two calls of `announce_service_on_intf` (IPv4, then IPv6): if one of them sent an
    announcement, the service has an address of that family and its unique records are active -/
theorem announce_pair_sound (svc : Service) (i : MyIntf) (r0 : Registry) (now j : Nat) (hp : svc.probe = true)
    (h : ((prepareAnnouncePkt svc i r0 true).isSome ||
          (prepareAnnouncePkt svc i (prepareAnnounceReg svc i r0 true now j) false).isSome) = true) :
    ∃ v4, addrsOn svc i v4 ≠ [] ∧
      ∀ a ∈ uniqueRecords svc i (announcePair svc i r0 now j) v4,
        (announcePair svc i r0 now j).isActive a = true := by
  have a1 := prepareAnnounceReg_active svc i r0 true now j
  have a2 := prepareAnnounceReg_active svc i (prepareAnnounceReg svc i r0 true now j) false now j
  rw [Bool.or_eq_true] at h
  rcases h with h | h
  · obtain ⟨p, hp4⟩ := Option.isSome_iff_exists.mp h
    obtain ⟨hne, hall, _⟩ := prepareAnnouncePkt_some hp4
    refine ⟨true, hne, ?_⟩
    intro a ha
    rw [uniqueRecords_congr (a2.2.trans a1.2)] at ha
    rw [isActive_congr (a2.1.trans a1.1)]
    exact hall hp a ha
  · obtain ⟨p, hp6⟩ := Option.isSome_iff_exists.mp h
    obtain ⟨hne, hall, _⟩ := prepareAnnouncePkt_some hp6
    refine ⟨false, hne, ?_⟩
    intro a ha
    rw [uniqueRecords_congr a2.2] at ha
    rw [isActive_congr a2.1]
    exact hall hp a ha

theorem announce_pair_le (svc : Service) (i : MyIntf) (r0 : Registry) (now j : Nat) :
    RegLe r0 (announcePair svc i r0 now j) :=
  announce_pair_ind svc i now j (RegLe.refl r0) fun _ _ h => h.trans (RegLe.of_eq rfl rfl)

theorem announce_pair_noRen (svc : Service) (i : MyIntf) {r0 : Registry} (h : NoRen r0) (now j : Nat) :
    NoRen (announcePair svc i r0 now j) :=
  prepareAnnounceReg_noRen (prepareAnnounceReg_noRen h svc i true now j) svc i false now j

/-- how an invariant-preserving step is shown: registries only grow, no renames appear, and
    every service afterwards was there before or is sound -/
theorem Inv.step {s s' : State} (h : Inv s) (hle : StLe s s') (hren : ∀ idx, NoRen (s'.registry idx))
    (hsvc : ∀ e ∈ s'.services, e ∈ s.services ∨ SvcSound s' e.2) : Inv s' :=
  ⟨hren, fun e he => (hsvc e he).elim (fun hold => (h.sound e hold).mono hle) id⟩

theorem noRen_setRegistry {s : State} (h : ∀ idx, NoRen (s.registry idx)) (i : Nat) {r : Registry} (hr : NoRen r) :
    ∀ idx, NoRen ((s.setRegistry i r).registry idx) := by
  intro idx
  by_cases e : idx = i
  · subst e; rw [registry_setRegistry_self]; exact hr
  · rw [registry_setRegistry_ne _ _ _ _ e]; exact h idx

theorem Inv.frame {s s' : State} (h : Inv s) (hi : s'.intfs = s.intfs) (hr : s'.registries = s.registries)
    (hs : s'.services = s.services) : Inv s' :=
  Inv.step h (StLe.of_eq hi hr) (fun idx => by rw [State.registry, hr]; exact h.noRen idx) (fun e he => Or.inl (hs ▸ he))

theorem Inv.setRegistry {s : State} (h : Inv s) (i : Nat) {r : Registry} (hle : RegLe (s.registry i) r) (hnr : NoRen r) :
    Inv (s.setRegistry i r) :=
  Inv.step h (StLe.setRegistry hle) (noRen_setRegistry h.noRen i hnr) (fun _ he => Or.inl he)

theorem Inv.setService {s s' : State} (h : Inv s) (hi : s'.intfs = s.intfs) (hr : s'.registries = s.registries)
    {k : BList} {v : Service} (hs : s'.services = aset k v s.services) (hv : SvcSound s v) : Inv s' :=
  Inv.step h (StLe.of_eq hi hr) (fun idx => by rw [State.registry, hr]; exact h.noRen idx)
    (fun e he => (mem_aset (hs ▸ he)).symm.imp_right (fun heq => by rw [heq]; exact hv.mono (StLe.of_eq hi hr)))

theorem Inv.announce {s : State} (h : Inv s) (svc : Service) (i : MyIntf) (now j : Nat) :
    Inv (s.setRegistry i.index (announcePair svc i (s.registry i.index) now j)) :=
  h.setRegistry i.index (announce_pair_le svc i _ now j) (announce_pair_noRen svc i (h.noRen i.index) now j)

theorem SvcSound.announce {s : State} {svc : Service} {i : MyIntf} (now j : Nat) (hi : i ∈ s.intfs) (h : SvcSound s svc)
    (hann : ((prepareAnnouncePkt svc i (s.registry i.index) true).isSome ||
      (prepareAnnouncePkt svc i (prepareAnnounceReg svc i (s.registry i.index) true now j) false).isSome) = true) :
    SvcSound (s.setRegistry i.index (announcePair svc i (s.registry i.index) now j)) (svc.setStatus i.index .announced) :=
  (h.mono (StLe.setRegistry (announce_pair_le svc i _ now j))).setStatus _ _ fun _ hp =>
    ⟨i, hi, rfl, by rw [registry_setRegistry_self]; exact announce_pair_sound svc i _ now j hp hann⟩

/-- a step from `s` to `s'` that keeps the invariant and the interfaces: what every stage of the
    loop is shown to be -/
def Passes (s s' : State) : Prop := Inv s → Inv s' ∧ s'.intfs = s.intfs

theorem Passes.foldl {α} {f : State × List Out → α → State × List Out} {l : List α} {s : State}
    (hf : ∀ acc a, a ∈ l → acc.1.intfs = s.intfs → Passes acc.1 (f acc a).1)
    {acc : State × List Out} (hi : acc.1.intfs = s.intfs) (h : Inv acc.1) :
    Inv (l.foldl f acc).1 ∧ (l.foldl f acc).1.intfs = s.intfs :=
  foldl_inv (fun a => Inv a.1 ∧ a.1.intfs = s.intfs) f l acc ⟨h, hi⟩
    (fun a x hx ha => ⟨(hf a x hx ha.2 ha.1).1, (hf a x hx ha.2 ha.1).2.trans ha.2⟩)

/-! ### registration -/

structure UnsolOk (s0 : State) (u : Unsol) : Prop where
  le : StLe s0 u.state
  noRen : ∀ idx, NoRen (u.state.registry idx)
  services : u.state.services = s0.services
  svc : SvcSound u.state u.svc

theorem unsolOnIntf_ok (s0 : State) (now j : Nat) (u : Unsol) (i : MyIntf) (hi : i ∈ s0.intfs) (h : UnsolOk s0 u) :
    UnsolOk s0 (unsolOnIntf now j u i) := by
  have hreg := announce_pair_le u.svc i (u.state.registry i.index) now j
  have hnr := announce_pair_noRen u.svc i (h.noRen i.index) now j
  unfold unsolOnIntf
  simp only []
  generalize hann : (Option.isSome _ || Option.isSome _) = c
  cases c
  · have hle : StLe u.state (u.state.setRegistry i.index { (announcePair u.svc i (u.state.registry i.index) now j) with newTimers := [] }) :=
      StLe.setRegistry (hreg.trans (RegLe.of_eq rfl rfl))
    exact ⟨h.le.trans hle, noRen_setRegistry h.noRen _ hnr, h.services, (h.svc.mono hle).setStatus _ _ nofun⟩
  · exact ⟨h.le.trans (StLe.setRegistry hreg), noRen_setRegistry h.noRen _ hnr, h.services,
      SvcSound.announce now j (h.le.1 ▸ hi) h.svc hann⟩

theorem registerChecked_inv (s : State) (svc : Service) (now j : Nat) (hs : svc.status = []) :
    Passes s (registerChecked s svc now j).1 := by
  intro h
  have hf := foldl_inv (UnsolOk s) (unsolOnIntf now j) s.intfs { state := s, svc := svc }
    ⟨StLe.refl s, h.noRen, rfl, fun _ idx ha => by simp [Service.announcedOn, Service.getStatus, hs, alookup] at ha⟩
    (unsolOnIntf_ok s now j)
  unfold registerChecked
  refine ⟨Inv.step h hf.le hf.noRen fun e he => ?_, hf.le.1⟩
  rcases mem_aset he with heq | hold
  · exact Or.inr (heq ▸ hf.svc)
  · exact Or.inl (hf.services ▸ hold)

theorem registerService_inv (s : State) (svc : Service) (now j : Nat) (hs : svc.status = []) :
    Passes s (registerService s svc now j).1 := by
  intro h
  unfold registerService
  split
  · refine registerChecked_inv s _ now j ?_ h
    unfold autoAddrs
    split <;> exact hs
  · exact ⟨h, rfl⟩

/-! ### every stage of the loop keeps the invariant -/

theorem removeWaiting_mem {r : Registry} {n k : BList} {p : Probe} (h : (k, p) ∈ (r.removeWaiting n).probing) :
    ∃ q, (k, q) ∈ r.probing ∧ p.records = q.records ∧ p.start = q.start ∧ p.next = q.next ∧
      p.waiting = q.waiting.filter (· != n) ∧ ¬ (n ∈ q.waiting ∧ p.waiting = []) := by
  simp only [Registry.removeWaiting, List.mem_filterMap] at h
  obtain ⟨e, he, hs⟩ := h
  split at hs
  · cases hs
  · rename_i hc
    cases hs
    refine ⟨e.2, he, rfl, rfl, rfl, rfl, ?_⟩
    intro ⟨h1, h2⟩
    apply hc
    simp only [Bool.and_eq_true, List.contains_eq_mem, decide_eq_true_eq, List.isEmpty_iff]
    exact ⟨h1, h2⟩

theorem removeWaiting_noRen {r : Registry} (h : NoRen r) (n : BList) : NoRen (r.removeWaiting n) :=
  ⟨h.1, fun k p hm a ha => by
    obtain ⟨q, hq, e, _⟩ := removeWaiting_mem hm
    exact h.2 k q hq a (e ▸ ha)⟩

/-- what `purgeWaiting` leaves alone -/
structure PurgeFrame (s s' : State) : Prop where
  le : StLe s s'
  services : s'.services = s.services
  reruns : s'.reruns = s.reruns
  timers : s'.timers = s.timers
  monitors : s'.monitors = s.monitors
  stopped : s'.stopped = s.stopped
  nameLenMax : s'.nameLenMax = s.nameLenMax
  ipInterval : s'.ipInterval = s.ipInterval
  nextIpCheck : s'.nextIpCheck = s.nextIpCheck

theorem removeWaiting_idem (r : Registry) (n : BList) : (r.removeWaiting n).removeWaiting n = r.removeWaiting n := by
  simp only [Registry.removeWaiting, List.filterMap_filterMap]
  congr 2
  funext e
  cases (e.2.waiting.contains n && (e.2.waiting.filter (· != n)).isEmpty)
  · simp only [Bool.false_eq_true, ↓reduceIte, List.contains_eq_mem, Option.bind_some, List.mem_filter,
      bne_self_eq_false, and_false, decide_false, Bool.false_and, List.filter_filter, Bool.and_self]
  · rfl

theorem foldl_registry {f : State → MyIntf → State} {g : Registry → Registry}
    (hf : ∀ st i idx, (f st i).registry idx = if i.index = idx then g (st.registry idx) else st.registry idx)
    (hg : ∀ r, g (g r) = g r) (l : List MyIntf) (st : State) (idx : Nat) :
    (l.foldl f st).registry idx = if l.any (·.index == idx) then g (st.registry idx) else st.registry idx := by
  induction l generalizing st with
  | nil => rfl
  | cons a l ih =>
    rw [List.foldl_cons, ih, hf, List.any_cons]
    by_cases e : a.index = idx
    · rw [if_pos e, beq_iff_eq.mpr e, Bool.true_or, if_pos rfl, hg, ite_self]
    · rw [if_neg e, beq_eq_false_iff_ne.mpr e, Bool.false_or]

/-- the registries after `unregister`: the service is taken out of the probes of every interface
    of the daemon, the other registries stay -/
theorem purgeWaiting_registry (s : State) (n : BList) (idx : Nat) :
    (purgeWaiting s n).registry idx =
      if s.intfs.any (·.index == idx) then (s.registry idx).removeWaiting n else s.registry idx := by
  unfold purgeWaiting
  refine foldl_registry (g := (·.removeWaiting n)) (fun st i idx => ?_) (fun r => removeWaiting_idem r n) s.intfs s idx
  cases hr : alookup i.index st.registries with
  | none =>
    by_cases e : i.index = idx
    · subst e
      rw [if_pos rfl, State.registry, hr]
      rfl
    · rw [if_neg e]
  | some r =>
    by_cases e : i.index = idx
    · subst e
      rw [if_pos rfl, registry_setRegistry_self, registry_of_lookup hr]
    · rw [if_neg e]
      exact registry_setRegistry_ne _ _ _ _ (Ne.symm e)

theorem purgeWaiting_eq (s : State) (n : BList) : ∃ R, purgeWaiting s n = { s with registries := R } :=
  foldl_inv (fun st => ∃ R, st = { s with registries := R }) _ s.intfs s ⟨_, rfl⟩
    (fun st i _ ⟨R, hR⟩ => by subst hR; split <;> exact ⟨_, rfl⟩)

theorem purgeWaiting_frame (s : State) (n : BList) (hnr : ∀ idx, NoRen (s.registry idx)) :
    PurgeFrame s (purgeWaiting s n) ∧ ∀ idx, NoRen ((purgeWaiting s n).registry idx) := by
  have hreg : ∀ idx, RegLe (s.registry idx) ((purgeWaiting s n).registry idx) ∧ NoRen ((purgeWaiting s n).registry idx) := by
    intro idx
    rw [purgeWaiting_registry]
    split
    · exact ⟨RegLe.of_eq rfl rfl, removeWaiting_noRen (hnr idx) n⟩
    · exact ⟨RegLe.refl _, hnr idx⟩
  obtain ⟨R, hR⟩ := purgeWaiting_eq s n
  refine ⟨⟨⟨by rw [hR], fun idx => (hreg idx).1⟩, ?_, ?_, ?_, ?_, ?_, ?_, ?_, ?_⟩, fun idx => (hreg idx).2⟩ <;> rw [hR]

theorem purgeWaiting_probes (s : State) (n : BList) (i : MyIntf) (hi : i ∈ s.intfs) :
    ∀ k p, (k, p) ∈ ((purgeWaiting s n).registry i.index).probing →
      n ∉ p.waiting ∧ ∃ q, (k, q) ∈ (s.registry i.index).probing ∧ p.records = q.records ∧ p.start = q.start ∧
        p.next = q.next ∧ p.waiting = q.waiting.filter (· != n) ∧ (n ∈ q.waiting → p.waiting ≠ []) := by
  intro k p h
  have ha : s.intfs.any (·.index == i.index) = true := List.any_eq_true.mpr ⟨i, hi, beq_self_eq_true _⟩
  rw [purgeWaiting_registry, ha, if_pos rfl] at h
  obtain ⟨q, hq, e1, e2, e3, e4, e5⟩ := removeWaiting_mem h
  refine ⟨?_, q, hq, e1, e2, e3, e4, fun hn hp => e5 ⟨hn, hp⟩⟩
  simp [e4, List.mem_filter]

theorem execUnregister_inv (s : State) (now : Nat) (name : BList) (ch : Nat) :
    Passes s (execUnregister s now name ch).1 := by
  intro h
  unfold execUnregister
  split
  · exact ⟨h, rfl⟩
  · rename_i svc _
    obtain ⟨hf, hn⟩ := purgeWaiting_frame s svc.fullname h.noRen
    exact ⟨Inv.step h (hf.le.trans (StLe.of_eq rfl rfl)) hn fun e he => Or.inl (mem_aerase he), hf.le.1⟩

theorem find_index_spec {intfs : List MyIntf} {idx : Nat} {i : MyIntf} (h : intfs.find? (·.index == idx) = some i) :
    i ∈ intfs ∧ i.index = idx := by
  refine ⟨List.mem_of_find?_eq_some h, ?_⟩
  have := List.find?_some h
  simpa using this

theorem execRegisterResend_inv (s : State) (now j : Nat) (fullname : BList) (ifIdx : Nat) :
    Passes s (execRegisterResend s now j fullname ifIdx).1 := by
  intro h
  rcases execRegisterResend_cases s now j fullname ifIdx with e | ⟨svc, r0, i, hsvc, hr0, hi, hcase⟩
  · rw [e]
    exact ⟨h, rfl⟩
  · obtain ⟨him, rfl⟩ := find_index_spec hi
    cases registry_of_lookup hr0
    rcases hcase with e | ⟨hann, e⟩ <;> rw [e]
    · exact ⟨h.announce svc i now j, rfl⟩
    · exact ⟨(h.announce svc i now j).setService rfl rfl rfl
        (SvcSound.announce now j him (h.sound _ (alookup_mem hsvc)) hann), rfl⟩

theorem wakeService_inv (now j : Nat) (i : MyIntf) (acc : State × List Out) (name : BList) (hi : i ∈ acc.1.intfs) :
    Passes acc.1 (wakeService now j i acc name).1 := by
  intro h
  rcases wakeService_cases now j i acc name with e | ⟨svc, hsvc, _, e | ⟨hann, e⟩⟩ <;> rw [e]
  · exact ⟨h, rfl⟩
  · exact ⟨h.announce svc i now j, rfl⟩
  · exact ⟨(h.announce svc i now j).setService rfl rfl rfl
      (SvcSound.announce now j hi (h.sound _ (alookup_mem hsvc)) hann), rfl⟩

theorem drainNewTimers_frame (idx : Nat) (acc : State × List Out) :
    (drainNewTimers idx acc).1.intfs = acc.1.intfs ∧ (drainNewTimers idx acc).1.stopped = acc.1.stopped ∧
    (drainNewTimers idx acc).1.services = acc.1.services ∧ (drainNewTimers idx acc).1.reruns = acc.1.reruns ∧
    (drainNewTimers idx acc).1.monitors = acc.1.monitors := ⟨rfl, rfl, rfl, rfl, rfl⟩

theorem drainNewTimers_registry_self (idx : Nat) (acc : State × List Out) :
    (drainNewTimers idx acc).1.registry idx = { (acc.1.registry idx) with newTimers := [] } :=
  registry_setRegistry_self _ _ _

theorem drainNewTimers_registry_ne (idx k : Nat) (acc : State × List Out) (h : k ≠ idx) :
    (drainNewTimers idx acc).1.registry k = acc.1.registry k :=
  registry_setRegistry_ne _ _ _ _ h

theorem drainNewTimers_inv (idx : Nat) (acc : State × List Out) (h : Inv acc.1) : Inv (drainNewTimers idx acc).1 :=
  (h.setRegistry idx (r := { (acc.1.registry idx) with newTimers := [] }) (RegLe.of_eq rfl rfl) (h.noRen idx)).frame
    rfl rfl rfl

theorem probingOnIntf_inv (now j : Nat) (acc : State × List Out) (i : MyIntf) (hi : i ∈ acc.1.intfs) :
    Passes acc.1 (probingOnIntf now j acc i).1 := by
  intro h
  refine probingOnIntf_ind (P := fun a => Inv a.1 ∧ a.1.intfs = acc.1.intfs) now j acc i (fun _ => ⟨h, rfl⟩) (fun r hr => ?_)
    (fun a nm ha => ?_) (fun a ha => ⟨drainNewTimers_inv _ _ ha.1, ha.2⟩)
  · cases registry_of_lookup hr
    have hex := handleExpiredProbes_spec (checkProbing (acc.1.registry i.index) now).expired i.name _
      (checkProbing_noRen (h.noRen i.index) now)
    exact ⟨(h.setRegistry i.index ((RegLe.of_eq rfl rfl).trans hex.2) hex.1).frame rfl rfl rfl, rfl⟩
  · have := wakeService_inv now j i a nm (ha.2 ▸ hi) ha.1
    exact ⟨this.1, this.2.trans ha.2⟩

theorem probingHandler_inv (s : State) (now j : Nat) :
    Passes s (probingHandler s now j).1 :=
  Passes.foldl (acc := (s, [])) (fun a i hi hia => probingOnIntf_inv now j a i (hia ▸ hi)) rfl

theorem handleQuery_inv (s : State) (now : Nat) (p : RxPkt) (i : MyIntf) :
    Passes s (handleQuery s now p i).1 := by
  intro h
  unfold handleQuery
  split
  · exact ⟨h, rfl⟩
  · rename_i reg hreg
    cases registry_of_lookup hreg
    have hinv := h.setRegistry p.ifIdx
      (foldl_inv (RegLe (s.registry p.ifIdx)) _ p.msg.questions _ (RegLe.refl _) fun b q _ hb =>
        hb.trans (RegLe.of_eq (tiebreak_active now p.msg.authorities b q).1 (tiebreak_active now p.msg.authorities b q).2))
      (foldl_inv NoRen _ _ _ (h.noRen p.ifIdx) fun _ q _ hb => tiebreak_noRen hb now p.msg.authorities q)
    simp only []
    cases (List.foldl _ _ p.msg.questions : Resp).answers.isEmpty <;> exact ⟨hinv.frame rfl rfl rfl, rfl⟩

/-- a datagram that is a query (QR bit clear) -/
def RxPkt.isQuery (p : RxPkt) : Bool := p.msg.flags / 32768 % 2 == 0

theorem handleRead_inv (now j : Nat) (acc : State × List Out) (p : RxPkt) (hq : p.isQuery = true) :
    Passes acc.1 (handleRead now j acc p).1 := by
  intro h
  unfold handleRead
  split
  · exact ⟨h, rfl⟩
  · rename_i i _
    split
    · exact ⟨h, rfl⟩
    · simp only [RxPkt.isQuery] at hq
      simp only [hq, ↓reduceIte]
      exact handleQuery_inv acc.1 now p i h

theorem execCommand_inv (now j : Nat) (acc : State × List Out) (c : Command)
    (hc : ∀ svc, c = .register svc → svc.status = []) :
    Passes acc.1 (execCommand now j acc c).1 := by
  intro h
  unfold execCommand
  split
  · exact ⟨h, rfl⟩
  · cases c with
    | register svc => exact registerService_inv acc.1 svc now j (hc svc rfl) h
    | unregister name ch => exact execUnregister_inv acc.1 now name ch h
    | monitor ch => exact ⟨h.frame rfl rfl rfl, rfl⟩
    | ipInterval ms => exact ⟨h.frame rfl rfl rfl, rfl⟩
    | exit ch => exact ⟨Inv.step h (StLe.of_eq rfl rfl) h.noRen (fun _ he => nomatch he), rfl⟩

theorem execRerun_inv (now j : Nat) (acc : State × List Out) (r : ReRun) :
    Passes acc.1 (execRerun now j acc r).1 := by
  intro h
  unfold execRerun
  cases r with
  | registerResend n fullname ifIdx => exact execRegisterResend_inv acc.1 now j fullname ifIdx h
  | unregisterResend n pkt ifIdx v4 => exact ⟨h, rfl⟩

theorem runReruns_inv (s : State) (now j : Nat) :
    Passes s (runReruns s now j).1 :=
  fun h => Passes.foldl (fun a r _ _ => execRerun_inv now j a r) rfl (h.frame rfl rfl rfl)

theorem runIpCheck_inv (s : State) (now : Nat) (h : Inv s) : Inv (runIpCheck s now) := by
  rcases runIpCheck_cases s now with ⟨e, _⟩ | ⟨e, _⟩ | ⟨e, _⟩ <;> rw [e]
  · exact h
  · exact h.frame rfl rfl rfl
  · exact h.frame rfl rfl rfl

/-- the inputs under which the invariant is claimed: every datagram read is a query (no
    response, hence no conflict), and every registered `ServiceInfo` is fresh (its status map
    is empty, as `ServiceInfo::new` builds it) -/
def Input.plain (inp : Input) : Prop :=
  (∀ p ∈ inp.rx, p.isQuery = true) ∧ ∀ svc, Command.register svc ∈ inp.cmds → svc.status = []

theorem iter_inv (s : State) (inp : Input) (h : Inv s) (hp : inp.plain) : Inv (iter s inp).1 := by
  have h1 := foldl_inv (fun (a : State × List Out) => Inv a.1) (handleRead inp.now inp.jitter) inp.rx (s, []) h
    (fun a p hpm ha => (handleRead_inv inp.now inp.jitter a p (hp.1 p hpm) ha).1)
  have h3 : Inv (afterCmds s inp).1 := by
    unfold afterCmds
    refine foldl_inv (fun a => Inv a.1) _ _ _ ?_
      (fun a c hcm ha => (execCommand_inv inp.now inp.jitter a c (fun svc e => hp.2 svc (e ▸ hcm)) ha).1)
    exact h1.frame rfl rfl rfl
  rcases iter_cases s inp with ⟨_, e | e⟩ | ⟨_, e⟩ <;> rw [e]
  · exact h
  · exact h3
  · exact runIpCheck_inv _ _ (probingHandler_inv _ _ _ (runReruns_inv _ _ _ h3).1).1

theorem init_inv (now : Nat) (intfs : List MyIntf) : Inv (init now intfs) := by
  refine ⟨fun idx => ?_, fun e he => by simp [init] at he⟩
  unfold State.registry
  cases hl : alookup idx (init now intfs).registries with
  | none => exact NoRen.empty
  | some r =>
    have := alookup_mem hl
    simp only [init, List.mem_map] at this
    obtain ⟨_, _, heq⟩ := this
    have : r = {} := ((Prod.mk.inj heq).2).symm
    simpa [this] using NoRen.empty

theorem run_inv (inputs : List Input) (s : State) (h : Inv s) (hp : ∀ inp ∈ inputs, inp.plain) : Inv (run s inputs).1 := by
  induction inputs generalizing s with
  | nil => exact h
  | cons inp rest ih =>
    simp only [run]
    exact ih _ (iter_inv s inp h (hp inp (by simp))) (fun x hx => hp x (List.mem_cons_of_mem _ hx))

/-! ### concrete interfaces and services for the non-vacuity examples -/

/-- `eth0`, index 2, 192.168.1.10/24 -/
def eth0 : MyIntf := { name := [0x65, 0x74, 0x68, 0x30], index := 2, addrs := [([192, 168, 1, 10], [255, 255, 255, 0])] }

/-- `eth0` with 192.168.1.10/24 and fe80::10/64 -/
def eth0dual : MyIntf :=
  { name := [0x65, 0x74, 0x68, 0x30], index := 2,
    addrs := [([192, 168, 1, 10], [255, 255, 255, 0]),
              ([0xfe, 0x80, 0, 0, 0, 0, 0, 0, 0, 0, 0, 0, 0, 0, 0, 0x10], [255, 255, 255, 255, 255, 255, 255, 255, 0, 0, 0, 0, 0, 0, 0, 0])] }

/-- `web._http._tcp.local.` on `alpha.local.`, port 80, 192.168.1.20, empty TXT -/
def web : Service :=
  { ty := [0x5f,0x68,0x74,0x74,0x70,0x2e,0x5f,0x74,0x63,0x70,0x2e,0x6c,0x6f,0x63,0x61,0x6c,0x2e], sub := none,
    fullname := [0x77,0x65,0x62,0x2e,0x5f,0x68,0x74,0x74,0x70,0x2e,0x5f,0x74,0x63,0x70,0x2e,0x6c,0x6f,0x63,0x61,0x6c,0x2e],
    host := [0x61,0x6c,0x70,0x68,0x61,0x2e,0x6c,0x6f,0x63,0x61,0x6c,0x2e], port := 80, addrs := [[192, 168, 1, 20]],
    txt := [0], probe := true, addrAuto := false }

/-- `Web._http._tcp.local.` (mixed case) with subtype `_printer._sub._http._tcp.local.` on
    `Beta.local.`, port 631, 192.168.1.20 and fe80::20, TXT `path=/` -/
def webMixed : Service :=
  { ty := [0x5f,0x68,0x74,0x74,0x70,0x2e,0x5f,0x74,0x63,0x70,0x2e,0x6c,0x6f,0x63,0x61,0x6c,0x2e],
    sub := some [0x5f,0x70,0x72,0x69,0x6e,0x74,0x65,0x72,0x2e,0x5f,0x73,0x75,0x62,0x2e,
                 0x5f,0x68,0x74,0x74,0x70,0x2e,0x5f,0x74,0x63,0x70,0x2e,0x6c,0x6f,0x63,0x61,0x6c,0x2e],
    fullname := [0x57,0x65,0x62,0x2e,0x5f,0x68,0x74,0x74,0x70,0x2e,0x5f,0x74,0x63,0x70,0x2e,0x6c,0x6f,0x63,0x61,0x6c,0x2e],
    host := [0x42,0x65,0x74,0x61,0x2e,0x6c,0x6f,0x63,0x61,0x6c,0x2e], port := 631,
    addrs := [[192, 168, 1, 20], [0xfe, 0x80, 0, 0, 0, 0, 0, 0, 0, 0, 0, 0, 0, 0, 0, 0x20]],
    txt := [6, 0x70, 0x61, 0x74, 0x68, 0x3d, 0x2f], probe := true, addrAuto := false }

end Mdns.Responder
