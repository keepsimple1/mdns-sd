import Mdns.Lemmas.ClientKept
/-
  C13 on the client model, the time-out case: after `SearchTimeout` / `SearchStopped` the queued
  retransmission of the search stays in the queue until its time.  It is inert - it does nothing
  while no search for the name is open, and a new search for the name purges it - so the channel
  stays silent (`Stale`).
-/
namespace Mdns.Client
open Mdns Mdns.Rec Mdns.Cache

/-- Nobody reports to `ch` except queued retransmissions of a hostname search for `key` that has
    ended; and either no search for `key` is open, or no such retransmission is queued. -/
structure Stale (ch : Nat) (key : BList) (s : State) : Prop where
  queriers : ∀ q ∈ s.queriers, q.2 ≠ ch
  resolvers : ∀ q ∈ s.resolvers, q.2.1 ≠ ch
  reruns : ∀ r ∈ s.reruns, rchan r.cmd = some ch → ∃ h d, r.cmd = .resolveHost h d ch ∧ lower h = key
  closed : (∀ q ∈ s.resolvers, q.1 ≠ key) ∨ ∀ r ∈ s.reruns, rchan r.cmd ≠ some ch

theorem rchan_of_rkey_none {c : RCmd} (h : rkey c = none) : rchan c = none := by
  cases c <;> simp [rkey] at h <;> rfl

theorem rchan_eq_of_rkey {c : RCmd} {x : Nat × BList × Nat} (h : rkey c = some x) : rchan c = some x.2.2 := by
  cases c <;> simp [rkey] at h <;> (subst h; rfl)

/-- after a step whose commands do not mention `ch`, still no browse and no hostname search uses `ch` -/
theorem Stale.basic_step {ch : Nat} {key : BList} {now : Nat} {cmds : List Command} {KeyOK : Option (Nat × BList × Nat) → Prop}
    {OK : Nat → Prop} {s s' : State} (hst : Step now cmds KeyOK OK s s') (h : Stale ch key s)
    (hc : ∀ c ∈ cmds, cchan c ≠ some ch) : SInv (fun q => q.2 ≠ ch) (fun q => q.2.1 ≠ ch) (fun _ => True) s' :=
  SInv.step hst ⟨h.queriers, h.resolvers, fun _ _ => trivial⟩ (fun _ _ _ hm => by simpa [cchan] using hc _ hm) (fun _ _ _ _ hm => by simpa [cchan] using hc _ hm)
    (fun _ _ => trivial)

theorem Stale.step {ch : Nat} {key : BList} {now : Nat} {cmds : List Command} {KeyOK : Option (Nat × BList × Nat) → Prop}
    {OK : Nat → Prop} {s s' : State} (hst : Step now cmds KeyOK OK s s') (h : Stale ch key s)
    (hc : ∀ c ∈ cmds, cchan c ≠ some ch) (hckey : ∀ h0 ch0 t, Command.resolveHost h0 ch0 t ∈ cmds → lower h0 ≠ key)
    (hk : ∀ k, KeyOK k → ∀ x, k = some x → x.2.2 ≠ ch) : Stale ch key s' := by
  have hnew : ∀ r ∈ s'.reruns, r ∈ s.reruns ∨ rchan r.cmd ≠ some ch := by
    intro r hr
    rcases hst.reruns r hr with h1 | ⟨_, _, _, h4⟩
    · exact Or.inl h1
    · right
      cases hk' : rkey r.cmd with
      | none => rw [rchan_of_rkey_none hk']; simp
      | some x =>
        rw [rchan_eq_of_rkey hk']
        intro he
        exact hk _ h4 x hk' (Option.some.inj he)
  have hb := Stale.basic_step hst h hc
  refine ⟨hb.queriers, hb.resolvers, ?_, ?_⟩
  · intro r hr hch
    rcases hnew r hr with h1 | h1
    · exact h.reruns r h1 hch
    · exact absurd hch h1
  · rcases h.closed with h1 | h1
    · left
      intro q hq
      rcases hst.resolvers q hq with h2 | ⟨h0, t, h2, h3, _⟩
      · exact h1 q h2
      · rw [h3]
        exact hckey h0 q.2.1 t h2
    · right
      intro r hr
      rcases hnew r hr with h2 | h2
      · exact h1 r h2
      · exact h2

theorem Stale.step_quiet {ch : Nat} {key : BList} {now : Nat} {OK : Nat → Prop} {s s' : State}
    (hst : Step now [] (fun k => k = none) OK s s') (h : Stale ch key s) : Stale ch key s' :=
  Stale.step hst h (fun _ hc => nomatch hc) (fun _ _ _ hc => nomatch hc) (fun k hk x hx => by rw [hk] at hx; cases hx)

theorem Stale.of_sub {ch : Nat} {key : BList} {s s' : State} (h : Stale ch key s) (hq : ∀ q ∈ s'.queriers, q ∈ s.queriers)
    (hv : ∀ q ∈ s'.resolvers, q ∈ s.resolvers) (hr : ∀ r ∈ s'.reruns, r ∈ s.reruns) : Stale ch key s' :=
  ⟨fun q h1 => h.queriers q (hq q h1), fun q h1 => h.resolvers q (hv q h1), fun r h1 => h.reruns r (hr r h1),
   h.closed.imp (fun h1 q h2 => h1 q (hv q h2)) (fun h1 r h2 => h1 r (hr r h2))⟩

theorem Stale.same {ch : Nat} {key : BList} {s s' : State} (h : Stale ch key s) (hs : SameSearches s s')
    (hr : s'.reruns = s.reruns) : Stale ch key s' :=
  h.of_sub (fun _ hq => hs.queriers ▸ hq) (fun _ hq => hs.resolvers ▸ hq) (fun _ h1 => hr ▸ h1)

theorem Stale.quiet {ch : Nat} {key : BList} {s : State} (h : Stale ch key s) {outs : List Out}
    (ho : AllOrigin s [] [] outs) (e : Ev) : Out.event ch e ∉ outs :=
  fun hm => no_event_of_chanFree ch s [] [] e h.queriers h.resolvers (fun _ h' => nomatch h') (fun _ h' => nomatch h')
    (fun _ h' => nomatch h') (ho _ hm)

theorem stale_execCommand (ch : Nat) (key : BList) (s : State) (now : Nat) (c : Command) (hc : cchan c ≠ some ch)
    (h : Stale ch key s) : Stale ch key (execCommand s now c).1 := by
  have hst := step_execCommand (now := now) (cmds := [c]) (KeyOK := fun k => k = none ∨ k = ckey c) (OK := fun _ => True)
    s c List.mem_cons_self (fun _ _ => trivial) (Or.inl rfl) (Or.inr rfl)
  have hc1 : ∀ c' ∈ [c], cchan c' ≠ some ch := fun c' hc' => List.mem_singleton.mp hc' ▸ hc
  by_cases hkey : ∃ h0 ch0 t, c = .resolveHost h0 ch0 t ∧ lower h0 = key
  · -- a new search for the name: the stale re-runs are purged
    obtain ⟨h0, ch0, t, rfl, hk⟩ := hkey
    have hrr : ∀ r ∈ (execResolveHost s now false h0 1 ch0 t).1.reruns, rchan r.cmd ≠ some ch := by
      intro r hr hch
      rcases execResolveHost_new_reruns s now h0 1 ch0 t r hr with hm | hm
      · obtain ⟨h', d, hcmd, hlow⟩ := h.reruns r (List.mem_filter.mp hm).1 hch
        exact rkey_of_not_resolveOf hm (1, h', ch) (by rw [hcmd]; rfl) ⟨rfl, hlow.trans hk.symm⟩
      · rw [hm] at hch
        exact hc hch
    have hb := Stale.basic_step hst h hc1
    exact ⟨hb.queriers, hb.resolvers, fun r hr hch => absurd hch (hrr r hr), Or.inr hrr⟩
  · refine Stale.step hst h hc1 ?_ ?_
    · intro h0 ch0 t hm he
      exact hkey ⟨h0, ch0, t, (List.mem_singleton.mp hm).symm, he⟩
    · rintro k (rfl | rfl) x hx
      · cases hx
      · rcases ckey_eq_some hx with ⟨_, _, rfl⟩ | ⟨_, _, rfl⟩ <;> exact fun he => hc (congrArg some he)

theorem stale_runCommands (ch : Nat) (key : BList) (now : Nat) (l : List Command) (s : State)
    (hc : ∀ c ∈ l, cchan c ≠ some ch) (h : Stale ch key s) :
    (∀ e, Out.event ch e ∉ (runCommands s now l).2) ∧ Stale ch key (runCommands s now l).1 := by
  have h1 := runCommands_induct_outs (P := Stale ch key) (Q := fun o => ∀ e, o ≠ .event ch e)
    (ok := fun c => cchan c ≠ some ch) now ?_ l s hc h
  · exact ⟨fun e he => h1.2 _ he e rfl, h1.1⟩
  · intro s c hc h
    refine ⟨stale_execCommand ch key s now c hc h, fun o ho e he => ?_⟩
    exact no_event_of_chanFree ch s [c] [] e h.queriers h.resolvers (fun c' hc' => List.mem_singleton.mp hc' ▸ hc)
      (fun _ hm => nomatch hm) (fun _ hm => nomatch hm) (he ▸ origin_execCommand s [c] [] now c List.mem_cons_self o ho)

theorem rchan_of_class {c c' : RCmd} (h : rclass c = rclass c') : rchan c = rchan c' := by
  cases c <;> cases c' <;> simp [rclass] at h <;> simp [rchan, h]

/-- one due re-run `r`, taken out of the queue `keep ++ r :: rest`: nothing on `ch`, still stale -/
theorem stale_execRerun (ch : Nat) (key : BList) (now : Nat) (s : State) (keep rest : List Rerun) (r : Rerun)
    (hq : s.reruns = keep ++ r :: rest) (h : Stale ch key s) :
    Stale ch key { (execRerun { s with reruns := [] } now r.cmd).1 with
      reruns := keep ++ (rest ++ (execRerun { s with reruns := [] } now r.cmd).1.reruns) } ∧
    ∀ o ∈ (execRerun { s with reruns := [] } now r.cmd).2, ∀ e, o ≠ .event ch e := by
  have hr : r ∈ s.reruns := by simp [hq]
  have hsub : ∀ x ∈ keep ++ rest, x ∈ s.reruns := by
    intro x hx
    rcases List.mem_append.mp hx with hx | hx <;> simp [hq, hx]
  by_cases hch : rchan r.cmd = some ch
  · -- the stale re-run: the search is gone, it does nothing
    obtain ⟨h0, d, hcmd, hlow⟩ := h.reruns r hr hch
    have hnone : ∀ q ∈ s.resolvers, q.1 ≠ key := h.closed.resolve_right fun h1 => h1 r hr hch
    have hgone : (s.resolvers.any (·.1 == lower h0)) = false := by
      rw [List.any_eq_false]
      intro q hq
      have := hnone q hq
      rw [hlow]
      simpa using this
    have hex : execRerun { s with reruns := [] } now r.cmd = ({ s with reruns := [] }, []) := by
      rw [hcmd]
      simp [execRerun, execResolveHost, hgone]
    simp only [hex, List.append_nil]
    exact ⟨h.of_sub (fun _ hq => hq) (fun _ hq => hq) hsub, fun _ ho => nomatch ho⟩
  · -- another re-run: its events and what it queues are not on `ch`
    have hs1 := (same_setReruns s []).trans (same_execRerun { s with reruns := [] } now r.cmd)
    have hnew : ∀ x ∈ (execRerun { s with reruns := [] } now r.cmd).1.reruns, rchan x.cmd ≠ some ch := by
      intro x hx
      rw [rchan_of_class ((execRerun_new_class _ now r.cmd x hx).resolve_left List.not_mem_nil)]
      exact hch
    have hmem : ∀ x ∈ keep ++ (rest ++ (execRerun { s with reruns := [] } now r.cmd).1.reruns),
        x ∈ s.reruns ∨ rchan x.cmd ≠ some ch := by
      intro x hx
      rw [← List.append_assoc] at hx
      exact (List.mem_append.mp hx).imp (hsub x) (hnew x)
    refine ⟨⟨fun q hq => h.queriers q (hs1.queriers ▸ hq), fun q hq => h.resolvers q (hs1.resolvers ▸ hq), ?_, ?_⟩, ?_⟩
    · exact fun x hx hxc => (hmem x hx).elim (fun h1 => h.reruns x h1 hxc) (absurd hxc)
    · exact h.closed.imp (fun h1 q hq => h1 q (hs1.resolvers ▸ hq)) fun h1 x hx => (hmem x hx).elim (h1 x) id
    · intro o ho e he
      refine no_event_of_chanFree ch { s with reruns := [] } [] [rclass r.cmd] e
        h.queriers h.resolvers (fun _ hm => nomatch hm)
        (fun ty hm => hch (rchan_eq_of_rkey (rkey_of_class_browse (List.mem_singleton.mp hm).symm)))
        (fun h0 hm => hch (rchan_eq_of_rkey (rkey_of_class_host (List.mem_singleton.mp hm).symm)))
        (he ▸ origin_execRerun { s with reruns := [] } now r.cmd o ho)

theorem stale_rerunPhase (ch : Nat) (key : BList) (now : Nat) (s : State) (h : Stale ch key s) :
    (∀ e, Out.event ch e ∉ (rerunPhase s now).2) ∧ Stale ch key (rerunPhase s now).1 := by
  have h1 := rerunPhase_induct (P := Stale ch key) (Q := fun o => ∀ e, o ≠ .event ch e) now
    (fun s keep rest r hq _ h => stale_execRerun ch key now s keep rest r hq h) s h
  exact ⟨fun e he => h1.2 _ he e rfl, h1.1⟩

theorem stale_tail (ch : Nat) (key : BList) (x : State) (now : Nat) (post : List Command) (h : Stale ch key x)
    (hc : ∀ c ∈ post, cchan c ≠ some ch) :
    (∀ e, Out.event ch e ∉ tailOuts x now post) ∧ Stale ch key (runIpCheck (tailState x now post) now) := by
  obtain ⟨q1, s1⟩ := stale_runCommands ch key now post x hc h
  obtain ⟨q2, s2⟩ := stale_rerunPhase ch key now _ s1
  have s3 := s2.same (same_refreshActive _ now) (refreshActive_reruns _ now)
  have s4 := s3.same (same_refreshResolvers _ now) (refreshResolvers_reruns _ now)
  have s5 := s4.same (same_evictServicesPhase _ now) (evictServicesPhase_reruns _ now)
  have s6 : Stale ch key (tailState x now post) :=
    Stale.step_quiet (step_evictAddrPhase (now := now) (cmds := []) (KeyOK := fun k => k = none) (OK := fun _ => True) _
      trivial rfl) s5
  refine ⟨fun e he => ?_, s6.same (same_runIpCheck _ now) (runIpCheck_reruns _ now)⟩
  unfold tailOuts at he
  simp only [List.mem_append] at he
  rcases he with ((((he | he) | he) | he) | he) | he
  · exact q1 e he
  · exact q2 e he
  · exact s2.quiet (origin_refreshActive _ [] [] now) e he
  · exact s3.quiet (origin_refreshResolvers _ [] [] now) e he
  · exact s4.quiet (origin_evictServicesPhase _ [] [] now) e he
  · exact s5.quiet (origin_evictAddrPhase _ [] [] now) e he

theorem stale_preCommands (ch : Nat) (key : BList) (s : State) (now : Nat) (pkts : List Packet) (h : Stale ch key s) :
    (∀ e, Out.event ch e ∉ (ingress s now pkts).2 ++ (runTimeouts (popTimers (ingress s now pkts).1 now) now).2) ∧
    Stale ch key (preCommands s now pkts) := by
  have h1 : Stale ch key (ingress s now pkts).1 :=
    Stale.step_quiet (step_ingress (now := now) (cmds := []) (KeyOK := fun k => k = none) (OK := fun _ => True) rfl pkts s
      (fun _ _ => trivial)) h
  have h2 : Stale ch key (popTimers (ingress s now pkts).1 now) := h1.same (same_popTimers _ now) rfl
  exact ⟨h.quiet (origin_preCommands s [] [] now pkts),
    h2.of_sub (fun _ hq => hq) (fun q hq => (List.mem_filter.mp hq).1) (fun _ hr => hr)⟩

/-- **a stale channel stays silent through an iteration** whose commands do not mention it -/
theorem stale_iter (ch : Nat) (key : BList) (s : State) (now : Nat) (pkts : List Packet) (cmds : List Command)
    (h : Stale ch key s) (hc : ∀ c ∈ cmds, cchan c ≠ some ch) :
    (∀ e, Out.event ch e ∉ (Client.iter s now pkts cmds).2) ∧ Stale ch key (Client.iter s now pkts cmds).1 := by
  obtain ⟨q0, h0⟩ := stale_preCommands ch key s now pkts h
  exact iter_of_tail (Out.event ch) s now pkts cmds q0 (stale_tail ch key _ now cmds h0 hc)

def ResolverKeysNodup (s : State) : Prop := (s.resolvers.map (·.1)).Nodup

theorem resolverKeys_execCommand (s : State) (now : Nat) (c : Command) (h : ResolverKeysNodup s) :
    ResolverKeysNodup (execCommand s now c).1 := by
  unfold ResolverKeysNodup at *
  rcases execCommand_hosts s now c with ⟨h0, ch, t, rfl⟩ | ⟨h0, rfl⟩ | e
  · show ((execResolveHost s now false h0 1 ch t).1.resolvers.map (·.1)).Nodup
    rw [execResolveHost_new_resolvers]
    simp only [List.map_cons, List.nodup_cons]
    refine ⟨fun hm => ?_, h.sublist (List.Sublist.map _ List.filter_sublist)⟩
    obtain ⟨q, hq, hk⟩ := List.mem_map.mp hm
    have := (List.mem_filter.mp hq).2
    simp [hk] at this
  · simp only [execCommand, execStopResolve]
    split
    · exact h
    · exact h.sublist (List.Sublist.map _ List.filter_sublist)
  · rw [e]
    exact h

theorem resolverKeys_iter (s : State) (now : Nat) (pkts : List Packet) (cmds : List Command) (h : ResolverKeysNodup s) :
    ResolverKeysNodup (Client.iter s now pkts cmds).1 := by
  unfold ResolverKeysNodup
  rw [(same_iter s now pkts cmds).resolvers]
  refine runCommands_induct (ok := fun _ => True) now (fun s c _ => resolverKeys_execCommand s now c) cmds _
    (fun _ _ => trivial) ?_
  unfold ResolverKeysNodup
  rw [preCommands_resolvers]
  exact h.sublist (List.Sublist.map _ List.filter_sublist)

theorem flatMap_filter_split {α β} (p : α → Bool) (f : α → List β) (l1 l2 : List α) (x : α) (hx : p x = true) :
    ((l1 ++ x :: l2).filter p).flatMap f = (l1.filter p).flatMap f ++ (f x ++ (l2.filter p).flatMap f) := by
  simp only [List.filter_append, List.filter_cons, hx, if_true, List.flatMap_append, List.flatMap_cons]

/-- **The time-out ends the search for good.**  The hostname search for `key` is the only user
    of `ch`, it is open with deadline `dl`, and an iteration runs at `now ≥ dl` (its commands do
    not mention `ch`).  Then the iteration emits `SearchTimeout` immediately followed by
    `SearchStopped` on `ch`, nothing on `ch` after that, and leaves the channel stale: only the
    inert retransmission of the ended search may still be queued for it. -/
theorem timeout_final (ch : Nat) (key : BList) (dl : Nat) (s : State) (now : Nat) (pkts : List Packet) (cmds : List Command)
    (ho : OnlyHost ch key s) (hs : Searching key ch (some dl) s)
    (hn : ResolverKeysNodup s) (hdue : dl ≤ now) (hc : ∀ c ∈ cmds, cchan c ≠ some ch) :
    ∃ a b, (Client.iter s now pkts cmds).2 = a ++ Out.event ch (.htimeout key) :: Out.event ch (.hstopped key) :: b ∧
      (∀ e, Out.event ch e ∉ b) ∧ Stale ch key (Client.iter s now pkts cmds).1 := by
  -- the resolver list around the entry of the search: the other entries have other names and channels
  obtain ⟨l1, l2, hl⟩ := List.append_of_mem (List.mem_of_find?_eq_some hs)
  have hkeys : ∀ q ∈ l1 ++ l2, q.1 ≠ key := by
    unfold ResolverKeysNodup at hn
    rw [hl] at hn
    simp only [List.map_append, List.map_cons] at hn
    have hn' := List.nodup_append.mp hn
    intro q hq hk
    rcases List.mem_append.mp hq with hq | hq
    · exact hn'.2.2 _ (List.mem_map_of_mem hq) _ List.mem_cons_self hk
    · exact (List.nodup_cons.mp hn'.2.1).1 (hk ▸ List.mem_map_of_mem hq)
  have hother : ∀ q ∈ l1 ++ l2, q.2.1 ≠ ch := by
    intro q hq he
    refine hkeys q hq (ho.resolvers q ?_ he)
    rw [hl]
    exact (List.mem_append.mp hq).elim (List.mem_append_left _) fun h => List.mem_append_right _ (List.mem_cons_of_mem _ h)
  have ho1 := SInv.preCommands ho now pkts (fun x hx => nomatch hx)
  -- no search for `key` survives the time-out phase
  have hfree : ∀ q ∈ (preCommands s now pkts).resolvers, q.1 ≠ key := by
    intro q hq
    simp only [preCommands_resolvers, List.mem_filter, hl, List.mem_append,
      List.mem_cons] at hq
    obtain ⟨hq1 | rfl | hq1, hq2⟩ := hq
    · exact hkeys q (List.mem_append_left _ hq1)
    · simp [hdue] at hq2
    · exact hkeys q (List.mem_append_right _ hq1)
  have hstale : Stale ch key (preCommands s now pkts) := by
    refine ⟨ho1.queriers, fun q hq he => hfree q hq (ho1.resolvers q hq he), fun r hr hch => ?_, Or.inl hfree⟩
    cases hk : rkey r.cmd with
    | none => rw [rchan_of_rkey_none hk] at hch; cases hch
    | some x =>
      rw [rchan_eq_of_rkey hk] at hch
      obtain ⟨h1, h2⟩ := ho1.reruns r hr x hk (Option.some.inj hch)
      obtain ⟨n, c⟩ := r
      cases c <;> simp [rkey] at hk
      · subst hk
        simp at h1
      · subst hk
        cases hch
        exact ⟨_, _, rfl, h2⟩
  obtain ⟨qt, st⟩ := stale_tail ch key _ now cmds hstale hc
  -- the time-out phase: the two events of the search, between those of the entries before and after it
  obtain ⟨a, b, hto, hb⟩ : ∃ a b, (runTimeouts (popTimers (ingress s now pkts).1 now) now).2 =
      a ++ ([.event ch (.htimeout key), .event ch (.hstopped key)] ++ b) ∧ ∀ e, Out.event ch e ∉ b := by
    refine ⟨?a, ?b, ?h1, fun e he => ?_⟩
    case h1 =>
      rw [runTimeouts_snd]
      simp only [popTimers, (same_ingress now pkts s).resolvers, hl]
      refine flatMap_filter_split _ _ l1 l2 _ ?_
      simp [hdue]
    simp only [List.mem_flatMap, List.mem_filter] at he
    obtain ⟨q, ⟨hq, _⟩, hm⟩ := he
    have := hother q (List.mem_append_right _ hq)
    simp only [List.mem_cons, Out.event.injEq, List.not_mem_nil, or_false] at hm
    rcases hm with ⟨h1, _⟩ | ⟨h1, _⟩ <;> exact this h1.symm
  refine ⟨(ingress s now pkts).2 ++ a, b ++ tailOuts (preCommands s now pkts) now cmds, ?_, fun e he => ?_, ?_⟩
  · rw [(iter_tail s now pkts cmds).2, hto]
    simp only [List.append_assoc, List.cons_append, List.nil_append]
  · exact (List.mem_append.mp he).elim (hb e) (qt e)
  · rw [(iter_tail s now pkts cmds).1]
    exact st

end Mdns.Client
