import Mdns.Lemmas.ClientEvolve
/-
  A predicate on caches that every cache operation preserves (`CacheOpsClosed`) holds after a
  whole iteration (`closed_iter`); the first instance: the names of every table are distinct
  (`KeysNodup`, `keysNodup_closed`).
-/
namespace Mdns.Client
open Mdns Mdns.Rec Mdns.Cache

variable {P : Cache → Prop} {now : Nat}

theorem closed_preCommands (h : CacheOpsClosed P now) (s : State) (pkts : List Packet) (hp : P s.cache) :
    P (preCommands s now pkts).cache :=
  closed_ingress (fun c ifName ifIdx _ forUs => h.add c ifName ifIdx _ forUs) pkts s hp

/-- the cache in which `refresh_active_services` runs -/
theorem closed_preRefresh (h : CacheOpsClosed P now) (s : State) (pkts : List Packet) (cmds : List Command)
    (hp : P s.cache) : P (rerunPhase (runCommands (preCommands s now pkts) now cmds).1 now).1.cache := by
  rw [rerunPhase_cache]
  exact closed_runCommands h.phases cmds _ (closed_preCommands h s pkts hp)

theorem closed_iter (h : CacheOpsClosed P now) (s : State) (pkts : List Packet) (cmds : List Command) (hp : P s.cache) :
    P (iter s now pkts cmds).1.cache := by
  rw [iter_fst, runIpCheck_cache, preIp_eq]
  exact closed_evictPhases h.phases _ (closed_preEvict h.phases s pkts cmds (closed_preCommands h s pkts hp))

/-- in every table of the cache every name occurs once -/
def KeysNodup (c : Cache) : Prop := ∀ sl : Slot, (c.table sl).keys.Nodup

theorem keysNodup_iff (c : Cache) :
    KeysNodup c ↔ c.ptr.keys.Nodup ∧ c.srv.keys.Nodup ∧ c.txt.keys.Nodup ∧ c.addr.keys.Nodup ∧ c.nsec.keys.Nodup := by
  constructor
  · intro h
    exact ⟨h .ptr, h .srv, h .txt, h .addr, h .nsec⟩
  · rintro ⟨h1, h2, h3, h4, h5⟩ sl
    cases sl
    · exact h1
    · exact h2
    · exact h3
    · exact h4
    · exact h5

theorem keys_modify (t : Table) (k : BList) (f : List Entry → List Entry) : (t.modify k f).keys = t.keys := by
  simp only [Table.modify, Table.keys, List.map_map]
  apply List.map_congr_left
  intro p _
  simp only [Function.comp]
  split <;> rfl

theorem keys_erase_sublist (t : Table) (k : BList) : (t.erase k).keys.Sublist t.keys :=
  List.Sublist.map _ List.filter_sublist

theorem keysNodup_empty : KeysNodup {} := by
  intro sl
  cases sl <;> exact List.nodup_nil

theorem keysNodup_closed (now : Nat) : CacheOpsClosed KeysNodup now :=
  cacheOpsClosed_of_tables (T := fun _ t => t.keys.Nodup)
    (fun c srcName srcIdx inc forUs => tables_addOrUpdate (T := fun _ t => t.keys.Nodup) c srcName srcIdx inc now forUs fun _ _ _ h =>
      ⟨Table.nodup_set _ _ _ h, Table.nodup_set _ _ _ h⟩)
    (fun _ t k h => h.sublist (keys_erase_sublist t k)) (fun _ _ t k h => (keys_modify t k _).symm ▸ h)
    (fun _ t k h => (keys_modify t k _).symm ▸ h) (fun _ _ t k h => (keys_modify t k _).symm ▸ h)
    (fun _ t h => h.sublist (keys_evictTable_sublist now t))

end Mdns.Client
