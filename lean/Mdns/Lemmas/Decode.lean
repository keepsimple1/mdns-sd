import Mdns.Model.Compare
import Mdns.Lemmas.ResSpec
/- One contract per reader, `Res.Spec _ True False`: any call may fail, none panics. -/
namespace Mdns.Wire
open Mdns

theorem u16At_ne_none (d : Pkt) {i : Nat} (h : i + 1 < d.size) : u16At d i ≠ none := by
  simp [u16At, h, show i < d.size by omega]

theorem slice_length (d : Pkt) (off n : Nat) (h : off + n ≤ d.size) : (slice d off n).length = n := by
  simp [slice]; omega

theorem getD_of_cases {ret : Option Nat} {P : Nat → Prop} {k : Nat} (h : ∀ x, ret = some x → P x)
    (hk : ret = none → P k) : P (ret.getD k) := by
  cases ret
  · exact hk rfl
  · exact h _ rfl

/-- The step bound: a label step adds at least two bytes to a name of at most 255, hence
    `(255 - sofar.length) / 2` label steps; a pointer step uses one of the 127 hops; one final step. -/
theorem readNameGo_spec (d : Pkt) (s off : Nat) (sofar : BList) (ret : Option Nat) (hops steps : Nat) :
    sofar.length ≤ 255 → hops ≤ 127 →
    (∀ x, ret = some x → x ≤ d.size ∧ s < x) → (ret = none → s ≤ off) →
    (readNameGo d s off sofar ret hops steps).Spec (fun n =>
      n.name.length ≤ 255 ∧ n.next ≤ d.size ∧ s < n.next ∧
      n.steps ≤ steps + (255 - sofar.length) / 2 + (127 - hops) + 1) True False := by
  fun_induction readNameGo d s off sofar ret hops steps
  all_goals intro hs hh hret hoff
  case case2 hlt hnone => simp at hnone; omega
  case case3 off _ _ _ _ _ _ =>
    have := getD_of_cases (k := off + 1) hret fun hr => by have := hoff hr; omega
    exact ⟨hs, this.1, this.2, by simp only []; omega⟩
  case case7 off _ _ _ _ _ len _ hne _ hfit _ hlen ih =>
    have hl := slice_length d (off + 1) len.toNat (by omega)
    simp only [MAX_NAME_LEN, List.length_append, List.length_cons, List.length_nil, hl] at hlen ih
    refine (ih (by omega) hh hret fun hr => by have := hoff hr; omega).mono fun n hn => ?_
    have : len.toNat ≠ 0 := fun h0 => hne (UInt8.toNat_inj.mp (by simpa using h0))
    omega
  case case9 hsz _ hnone => exact u16At_ne_none d (by omega) hnone
  case case12 off _ _ _ _ _ _ _ _ _ _ _ _ _ _ hhop ih =>
    simp only [MAX_NAME_POINTERS] at hhop
    refine (ih hs (by omega) (fun x hx => ?_) (fun hr => by simp at hr)).mono fun n hn => by omega
    cases Option.some.inj hx
    exact getD_of_cases hret fun hr => by have := hoff hr; omega
  all_goals trivial

theorem readName_spec (d : Pkt) (off : Nat) :
    (readName d off).Spec (fun n =>
      n.name.length ≤ 255 ∧ n.next ≤ d.size ∧ off < n.next ∧ n.steps ≤ 255) True False :=
  (readNameGo_spec d off off [] none 0 0 (by simp) (by omega) (by simp) (by simp)).mono fun n hn => by
    simp only [List.length_nil] at hn; omega

/-! ### the small readers -/

theorem readU16_spec (d : Pkt) (off : Nat) :
    (readU16 d off).Spec (fun x => x.2 = off + 2 ∧ x.2 ≤ d.size) True False := by
  unfold readU16
  refine .ite (fun _ => trivial) fun _ => ?_
  split
  · exact ⟨rfl, by omega⟩
  · rename_i h; exact u16At_ne_none d (by omega) h

theorem readVec_spec (d : Pkt) (off len : Nat) :
    (readVec d off len).Spec (fun x => x.2 = off + len ∧ x.2 ≤ d.size ∧ x.1.length = len) True False :=
  .ite (fun _ => trivial) fun _ => ⟨rfl, by omega, slice_length d off len (by omega)⟩

theorem readString_spec (d : Pkt) (off len : Nat) :
    (readString d off len).Spec (fun x => x.2 = off + len ∧ x.2 ≤ d.size ∧ x.1.length = len) True False :=
  .ite (fun _ => trivial) fun _ => .ite (fun _ => trivial) fun _ =>
    ⟨rfl, by omega, slice_length d off len (by omega)⟩

theorem readCharString_spec (d : Pkt) (off : Nat) :
    (readCharString d off).Spec (fun x => x.2 = off + 1 + x.1.length ∧ x.2 ≤ d.size) True False := by
  unfold readCharString
  refine .ite (fun _ => trivial) fun _ => ?_
  split
  · rename_i h; simp at h; omega
  · exact (readString_spec d (off + 1) _).mono fun x hx => by omega

theorem readTypeBitmap_spec (d : Pkt) (off : Nat) :
    (readTypeBitmap d off).Spec (fun x => x.2 = off + 2 + x.1.length ∧ x.2 ≤ d.size) True False := by
  unfold readTypeBitmap
  refine .ite (fun _ => trivial) fun _ => ?_
  split
  · exact .ite (fun _ => trivial) fun _ => .ite (fun _ => trivial) fun _ => .ite (fun _ => trivial) fun _ =>
      ⟨(congrArg _ (slice_length d (off + 2) _ (by omega))).symm, by omega⟩
  · rename_i h
    simp [show off < d.size by omega, show off + 1 < d.size by omega] at h

/-! ### RDATA -/

theorem wellTyped_of (ty : Nat) (rd : RData)
    (h : Compare.wellTyped { (default : Rec) with ty := ty, rdata := rd } = true) (r : Rec) (ht : r.ty = ty)
    (hr : r.rdata = rd) : Compare.wellTyped r = true := by
  subst ht hr
  exact h

theorem readRData_spec (d : Pkt) (ty off rdlen : Nat) :
    (readRData d ty off rdlen).Spec (fun x => ∀ rd o, x = some (rd, o) →
      o ≤ d.size ∧ off + rdataBytes rd ≤ o ∧ (∀ n ∈ rdNames rd, n.length ≤ 255) ∧
      ∀ r : Rec, r.ty = ty → r.rdata = rd → Compare.wellTyped r = true) True False := by
  unfold readRData
  -- `c` is the test on the type number that held: it is what `wellTyped` asks of that kind of RDATA
  refine .ite (fun c => ?_) fun _ => .ite (fun c => ?_) fun _ => .ite (fun c => ?_) fun _ =>
    .ite (fun c => ?_) fun _ => .ite (fun c => ?_) fun _ => .ite (fun c => ?_) fun _ => .ite (fun c => ?_) fun _ => ?_
  · refine (readName_spec d off).elim (fun n hn rd o e => ?_) (fun _ => trivial) False.elim
    cases e
    exact ⟨hn.2.1, by simp only [rdataBytes]; omega, by simpa [rdNames] using hn.1, wellTyped_of _ _ ((Bool.or_comm _ _).trans c)⟩
  · refine (readVec_spec d off rdlen).elim (fun ⟨_, _⟩ hx rd o e => ?_) (fun _ => trivial) False.elim
    cases e
    dsimp only at hx
    exact ⟨hx.2.1, by simp only [rdataBytes]; omega, by simp [rdNames], wellTyped_of _ _ c⟩
  · refine (readU16_spec d off).elim (fun ⟨_, o1⟩ h1 => ?_) (fun _ => trivial) False.elim
    dsimp only at h1 ⊢
    refine (readU16_spec d o1).elim (fun ⟨_, o2⟩ h2 => ?_) (fun _ => trivial) False.elim
    dsimp only at h2 ⊢
    refine (readU16_spec d o2).elim (fun ⟨_, o3⟩ h3 => ?_) (fun _ => trivial) False.elim
    dsimp only at h3 ⊢
    refine (readName_spec d o3).elim (fun n hn rd o e => ?_) (fun _ => trivial) False.elim
    cases e
    exact ⟨hn.2.1, by simp only [rdataBytes]; omega, by simpa [rdNames] using hn.1, wellTyped_of _ _ c⟩
  · refine (readCharString_spec d off).elim (fun ⟨_, o1⟩ h1 => ?_) (fun _ => trivial) False.elim
    dsimp only at h1 ⊢
    refine (readCharString_spec d o1).elim (fun ⟨_, o2⟩ h2 rd o e => ?_) (fun _ => trivial) False.elim
    cases e
    dsimp only at h2
    exact ⟨h2.2, by simp only [rdataBytes]; omega, by simp [rdNames], wellTyped_of _ _ c⟩
  · refine (readVec_spec d off 4).elim (fun ⟨_, _⟩ hx rd o e => ?_) (fun _ => trivial) False.elim
    cases e
    dsimp only at hx
    exact ⟨hx.2.1, by simp only [rdataBytes]; omega, by simp [rdNames], wellTyped_of _ _ c⟩
  · refine (readVec_spec d off 16).elim (fun ⟨_, _⟩ hx rd o e => ?_) (fun _ => trivial) False.elim
    cases e
    dsimp only at hx
    exact ⟨hx.2.1, by simp only [rdataBytes]; omega, by simp [rdNames], wellTyped_of _ _ c⟩
  · refine (readName_spec d off).elim (fun n hn => ?_) (fun _ => trivial) False.elim
    dsimp only
    refine (readTypeBitmap_spec d n.next).elim (fun ⟨_, _⟩ hx rd o e => ?_) (fun _ => trivial) False.elim
    cases e
    dsimp only at hx
    exact ⟨hx.2, by simp only [rdataBytes]; omega, by simpa [rdNames] using hn.1, wellTyped_of _ _ c⟩
  · intro rd o e; cases e

/-! ### records, questions -/

theorem u16At_of_lt (d : Pkt) {i : Nat} (h : i + 1 < d.size) : ∃ v, u16At d i = some v :=
  Option.ne_none_iff_exists'.mp (u16At_ne_none d h)

theorem u32At_of_lt (d : Pkt) {i : Nat} (h : i + 3 < d.size) : ∃ v, u32At d i = some v := by
  obtain ⟨a, ha⟩ := u16At_of_lt d (show i + 1 < d.size by omega)
  obtain ⟨b, hb⟩ := u16At_of_lt d (show i + 2 + 1 < d.size by omega)
  exact ⟨a * 65536 + b, by simp [u32At, ha, hb]⟩

structure RecRead (d : Pkt) (resp : Bool) (r : Rec) : Prop where
  size : r.start + 11 + rdataBytes r.rdata ≤ r.stop
  stop : r.stop ≤ d.size
  names : ∀ n ∈ recNames r, n.length ≤ 255
  ttl : resp = true → 1 ≤ r.ttl
  wellTyped : Compare.wellTyped r = true

theorem readRR_spec (d : Pkt) (resp : Bool) (off : Nat) :
    (readRR d resp off).Spec (fun x => off + 11 ≤ x.2 ∧ x.2 ≤ d.size ∧
      ∀ r, x.1 = some r → r.start = off ∧ r.stop = x.2 ∧ RecRead d resp r) True False := by
  unfold readRR
  refine (readName_spec d off).elim (fun n hn => ?_) (fun _ => trivial) False.elim
  refine .ite (fun _ => trivial) fun _ => ?_
  obtain ⟨ty, hty⟩ := u16At_of_lt d (show n.next + 1 < d.size by omega)
  obtain ⟨cls, hcls⟩ := u16At_of_lt d (show n.next + 2 + 1 < d.size by omega)
  obtain ⟨ttl0, httl⟩ := u32At_of_lt d (show n.next + 4 + 3 < d.size by omega)
  obtain ⟨rdlen, hrd⟩ := u16At_of_lt d (show n.next + 8 + 1 < d.size by omega)
  rw [hty, hcls, httl, hrd]
  refine .ite (fun _ => trivial) fun _ => ?_
  refine (readRData_spec d ty (n.next + 10) rdlen).elim (fun x hx => ?_) (fun _ => trivial) False.elim
  cases x with
  | none => exact ⟨by simp only []; omega, by simp only []; omega, fun r hr => by cases hr⟩
  | some p =>
    obtain ⟨rd, o⟩ := p
    have hrd := hx rd o rfl
    refine .ite (fun _ => trivial) fun _ => ⟨by simp only []; omega, hrd.1, fun r hr => ?_⟩
    cases hr
    refine ⟨rfl, by simp only []; omega, by simp only []; omega, by simp only []; omega, ?_, ?_, hrd.2.2.2 _ rfl rfl⟩
    · intro nm hnm
      rcases List.mem_cons.mp hnm with rfl | hnm
      · exact hn.1
      · exact hrd.2.2.1 nm hnm
    · intro hresp
      simp only [hresp, and_true]
      split <;> omega

/-- the records `rs` were read one after the other from the bytes `off ..< o` of the datagram -/
structure Span (d : Pkt) (resp : Bool) (off o : Nat) (rs : List Rec) : Prop where
  size : off + (rs.map fun r => 11 + rdataBytes r.rdata).sum ≤ o
  mem : ∀ r ∈ rs, off ≤ r.start ∧ r.stop ≤ o ∧ RecRead d resp r
  ordered : rs.Pairwise (fun a b => a.stop ≤ b.start)

theorem Span.nil {d : Pkt} {resp : Bool} {off o : Nat} (h : off ≤ o) : Span d resp off o [] :=
  ⟨h, fun _ hr => (nomatch hr), .nil⟩

theorem Span.append {d : Pkt} {resp : Bool} {off o o' : Nat} {rs rs' : List Rec}
    (h : Span d resp off o rs) (h' : Span d resp o o' rs') : Span d resp off o' (rs ++ rs') := by
  have le := h.size
  have le' := h'.size
  refine ⟨by simp only [List.map_append, List.sum_append]; omega, fun r hr => ?_, ?_⟩
  · rcases List.mem_append.mp hr with hr | hr
    · have := h.mem r hr
      exact ⟨this.1, by omega, this.2.2⟩
    · have := h'.mem r hr
      exact ⟨by omega, this.2.1, this.2.2⟩
  · refine List.pairwise_append.mpr ⟨h.ordered, h'.ordered, fun a ha b hb => ?_⟩
    have := h.mem a ha
    have := h'.mem b hb
    omega

theorem readRRs_spec (d : Pkt) (resp : Bool) (count : Nat) : ∀ off, off ≤ d.size →
    (readRRs d resp count off).Spec (fun x => x.2 ≤ d.size ∧ Span d resp off x.2 x.1) True False := by
  induction count with
  | zero => exact fun off h => ⟨h, .nil (Nat.le_refl _)⟩
  | succ c ih =>
    intro off h
    rw [readRRs]
    refine (readRR_spec d resp off).elim (fun ⟨r?, o⟩ h1 => ?_) (fun _ => trivial) False.elim
    dsimp only at h1 ⊢
    refine (ih o h1.2.1).elim (fun ⟨rs, o'⟩ h2 => ?_) (fun _ => trivial) False.elim
    refine ⟨h2.1, Span.append ?_ h2.2⟩
    cases r? with
    | none => exact .nil (by omega)
    | some r =>
      obtain ⟨hs, he, hr⟩ := h1.2.2 r rfl
      have := hr.size
      exact ⟨by simp only [List.map_cons, List.map_nil, List.sum_cons, List.sum_nil]; omega,
        fun r' hr' => by cases List.mem_singleton.mp hr'; exact ⟨by omega, by omega, hr⟩, List.pairwise_singleton _ _⟩

theorem readQuestions_spec (d : Pkt) (count : Nat) : ∀ off, off ≤ d.size →
    (readQuestions d count off).Spec (fun x => off + 5 * x.1.length ≤ x.2 ∧ x.2 ≤ d.size ∧
      ∀ q ∈ x.1, q.name.length ≤ 255) True False := by
  induction count with
  | zero => exact fun off h => ⟨Nat.le_refl _, h, fun _ hq => (nomatch hq)⟩
  | succ c ih =>
    intro off h
    rw [readQuestions]
    refine (readName_spec d off).elim (fun n hn => ?_) (fun _ => trivial) False.elim
    refine .ite (fun _ => trivial) fun _ => ?_
    obtain ⟨ty, hty⟩ := u16At_of_lt d (show n.next + 1 < d.size by omega)
    obtain ⟨cls, hcls⟩ := u16At_of_lt d (show n.next + 2 + 1 < d.size by omega)
    rw [hty, hcls]
    refine .ite (fun _ => trivial) fun _ => ?_
    refine (ih (n.next + 4) (by omega)).elim (fun ⟨qs, o⟩ h2 => ?_) (fun _ => trivial) False.elim
    dsimp only at h2
    refine ⟨by simp only [List.length_cons]; omega, h2.2.1, fun q hq => ?_⟩
    rcases List.mem_cons.mp hq with rfl | hq
    · exact hn.1
    · exact h2.2.2 q hq

theorem decode_spec (d : Pkt) :
    (decode d).Spec (fun m => ∃ o1 o4, 12 + 5 * m.questions.length ≤ o1 ∧ o4 ≤ d.size ∧
      (∀ q ∈ m.questions, q.name.length ≤ 255) ∧
      Span d (m.flags / 32768 % 2 == 1) o1 o4 (m.answers ++ m.authorities ++ m.additionals)) True False := by
  unfold decode
  refine .ite (fun _ => trivial) fun _ => ?_
  obtain ⟨id, h0⟩ := u16At_of_lt d (show 0 + 1 < d.size by omega)
  obtain ⟨flags, h1⟩ := u16At_of_lt d (show 2 + 1 < d.size by omega)
  obtain ⟨nq, h2⟩ := u16At_of_lt d (show 4 + 1 < d.size by omega)
  obtain ⟨nan, h3⟩ := u16At_of_lt d (show 6 + 1 < d.size by omega)
  obtain ⟨nau, h4⟩ := u16At_of_lt d (show 8 + 1 < d.size by omega)
  obtain ⟨nad, h5⟩ := u16At_of_lt d (show 10 + 1 < d.size by omega)
  simp only [h0, h1, h2, h3, h4, h5]
  refine (readQuestions_spec d nq 12 (by omega)).elim (fun ⟨qs, o1⟩ hq => ?_) (fun _ => trivial) False.elim
  dsimp only at hq ⊢
  refine (readRRs_spec d _ nan o1 hq.2.1).elim (fun ⟨an, o2⟩ s1 => ?_) (fun _ => trivial) False.elim
  dsimp only at s1 ⊢
  refine (readRRs_spec d _ nau o2 s1.1).elim (fun ⟨au, o3⟩ s2 => ?_) (fun _ => trivial) False.elim
  dsimp only at s2 ⊢
  refine (readRRs_spec d _ nad o3 s2.1).elim (fun ⟨ad, o4⟩ s3 => ?_) (fun _ => trivial) False.elim
  exact ⟨o1, o4, hq.1, s3.1, hq.2.2, (s1.2.append s2.2).append s3.2⟩

end Mdns.Wire
