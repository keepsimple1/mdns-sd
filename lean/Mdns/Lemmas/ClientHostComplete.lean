import Mdns.Lemmas.ClientHost
/-
  Lemmas for C17, completeness of `AddressesFound`: an address record that `add_or_update`
  reports as new while its name is being resolved is listed in an `AddressesFound` of the
  same `handle_response`; when `add_or_update` answers at all, with which `is_new` flag
  (`Props.C04.newFlag` stands here because both C04 and C17 speak of it); and the refresh
  queries for the addresses of a searched host (`refresh_query_go`).
-/
namespace Mdns.Client
open Mdns Mdns.Rec Mdns.Cache

/-- an entry with this owner name and RDATA that has not expired at `now` is cached under `key`
    in the address table -/
def Present (c : Cache) (now : Nat) (key name : BList) (rd : RData) : Prop :=
  ∃ e ∈ (c.addr.get key).getD [], e.record.name = name ∧ e.record.rdata = rd ∧ now < e.record.expires

/-- what the lemmas below carry from an entry to its successor: owner name, RDATA, and being
    unexpired at `now` -/
def Keeps (now : Nat) (e e' : Entry) : Prop :=
  e'.record.name = e.record.name ∧ e'.record.rdata = e.record.rdata ∧
    (now < e.record.expires → now < e'.record.expires)

theorem Keeps.refl (now : Nat) (e : Entry) : Keeps now e e := ⟨rfl, rfl, id⟩

theorem Keeps.trans {now : Nat} {a b c : Entry} (h1 : Keeps now a b) (h2 : Keeps now b c) : Keeps now a c :=
  ⟨h2.1.trans h1.1, h2.2.1.trans h1.2.1, fun h => h2.2.2 (h1.2.2 h)⟩

theorem flushOne_keeps (inc : Record) (now : Nat) (e : Entry) : Keeps now e (flushOne inc now e) := by
  unfold flushOne
  split
  · exact ⟨rfl, rfl, fun _ => by simp [Record.setExpire]⟩
  · exact Keeps.refl now e

theorem mem_flushList_of_mem (inc : Record) (now : Nat) (es : List Entry) (e : Entry) (he : e ∈ es) :
    ∃ e' ∈ flushList inc now es, Keeps now e e' := by
  unfold flushList
  split
  · exact ⟨flushOne inc now e, List.mem_map_of_mem he, flushOne_keeps inc now e⟩
  · exact ⟨e, he, Keeps.refl now e⟩

/-- the incoming record is not expired at `now`, neither as it is nor after a `reset_ttl` from it
    (true of every record decoded at `now` with TTL ≥ 1) -/
def IncLive (now : Nat) (inc : Record) : Prop := now < inc.expires ∧ now < expTime inc.created inc.ttl 100

theorem incLive_ofWire (ifName : BList) (ifIdx now : Nat) (r : Wire.Rec) (h : 1 ≤ r.ttl) :
    IncLive now (ofWire ifName ifIdx now r) := by
  simp only [IncLive, ofWire, Record.new, expTime]
  omega

theorem mem_resetFirst_of_mem (inc : Record) (now : Nat) (hinc : IncLive now inc) : ∀ (es : List Entry) (e : Entry), e ∈ es →
    ∃ e' ∈ resetFirst inc es, Keeps now e e'
  | [], _, h => by cases h
  | x :: rest, e, h => by
    simp only [resetFirst]
    split
    · rcases List.mem_cons.mp h with rfl | h
      · exact ⟨_, List.mem_cons_self, rfl, rfl, fun _ => hinc.2⟩
      · exact ⟨e, List.mem_cons_of_mem _ h, Keeps.refl now e⟩
    · rcases List.mem_cons.mp h with rfl | h
      · exact ⟨e, List.mem_cons_self, Keeps.refl now e⟩
      · obtain ⟨e', he', hh⟩ := mem_resetFirst_of_mem inc now hinc rest e h
        exact ⟨e', List.mem_cons_of_mem _ he', hh⟩

theorem mem_upsert_of_mem (srcName : BList) (srcIdx : Nat) (inc : Record) (now : Nat) (hinc : IncLive now inc)
    (es : List Entry) (e : Entry) (he : e ∈ es) :
    ∃ e' ∈ upsert srcName srcIdx inc es, Keeps now e e' := by
  unfold upsert
  split
  · exact mem_resetFirst_of_mem inc now hinc es e he
  · exact ⟨e, List.mem_cons_of_mem _ he, Keeps.refl now e⟩

/-- `add_or_update` at `now` of a record that is not expired itself never removes an unexpired
    (owner name, RDATA) from the address table: a cache-flush moves the expiry to `now + 1 s`, a
    refresh to the expiry of the incoming record -/
theorem present_addOrUpdate (c : Cache) (srcName : BList) (srcIdx : Nat) (inc : Record) (now : Nat) (forUs : Bool)
    (hinc : IncLive now inc) (key name : BList) (rd : RData) (h : Present c now key name rd) :
    Present (addOrUpdate c srcName srcIdx inc now forUs).cache now key name rd := by
  refine tables_addOrUpdate c srcName srcIdx inc now forUs (sl := .addr) (fun sl t _ ht => ?_) (fun sl hsl => ?_) rfl
    (T := fun sl t => sl = .addr → ∃ e ∈ (t.get key).getD [], e.record.name = name ∧ e.record.rdata = rd ∧
      now < e.record.expires)
  · refine ⟨fun hsl => ?_, fun hsl => ?_⟩
    · obtain ⟨e, he, hn, hr, hl⟩ := ht hsl
      by_cases hk : key = keyOf sl inc.name
      · exact ⟨e, by rw [hk, Table.get_set_self]; exact hk ▸ he, hn, hr, hl⟩
      · exact ⟨e, by rw [Table.get_set_ne _ _ _ _ hk]; exact he, hn, hr, hl⟩
    obtain ⟨e, he, hn, hr, hl⟩ := ht hsl
    by_cases hk : key = keyOf sl inc.name
    · subst hk
      obtain ⟨e1, he1, k1⟩ := mem_flushList_of_mem inc now _ e he
      obtain ⟨e2, he2, k2⟩ := mem_upsert_of_mem srcName srcIdx inc now hinc _ e1 he1
      have k := k1.trans k2
      exact ⟨e2, by rw [Table.get_set_self]; exact he2, k.1.trans hn, k.2.1.trans hr, k.2.2 hl⟩
    · exact ⟨e, by rw [Table.get_set_ne _ _ _ _ hk]; exact he, hn, hr, hl⟩
  · subst hsl
    exact h

/-- the entry `add_or_update` answers with: the first matching entry with its TTL reset, or the
    incoming record itself -/
theorem upsert_at_idx (srcName : BList) (srcIdx : Nat) (inc : Record) (es : List Entry) (e : Entry)
    (h : (upsert srcName srcIdx inc es)[upsertIdx inc es]? = some e) :
    (∃ e0 : Entry, e0.record.matchesRec inc = true ∧ e = { e0 with record := e0.record.resetTtl inc }) ∨
      e = ⟨inc, srcName, srcIdx⟩ := by
  unfold upsert upsertIdx at h
  split at h
  · rename_i hm
    obtain ⟨pre, e0, post, _, _, h3, h4, h5⟩ := resetFirst_spec inc _ hm
    rw [h4, h5] at h
    simp only [List.getElem?_append_right (Nat.le_refl _), Nat.sub_self, List.getElem?_cons_zero,
      Option.some.injEq] at h
    exact Or.inl ⟨e0, h3, h.symm⟩
  · simp only [List.getElem?_cons_zero, Option.some.injEq] at h
    exact Or.inr h.symm

/-- the entry `add_or_update` returns is cached under the name of the incoming record and has
    its owner name, type and RDATA -/
theorem addOrUpdate_result_entry (c : Cache) (srcName : BList) (srcIdx : Nat) (inc : Record) (now : Nat) (forUs : Bool)
    (sl : Slot) (hs : slotOf inc.ty = some sl) (e : Entry) (b : Bool)
    (h : (addOrUpdate c srcName srcIdx inc now forUs).result = some (e, b)) :
    e ∈ (((addOrUpdate c srcName srcIdx inc now forUs).cache.table sl).get (keyOf sl inc.name)).getD [] ∧
    e.record.name = inc.name ∧ e.record.ty = inc.ty ∧ e.record.rdata = inc.rdata ∧
    (IncLive now inc → now < e.record.expires) := by
  unfold addOrUpdate at h ⊢
  simp only [hs] at h ⊢
  split at h
  · cases h
  · rename_i hdec
    simp only [hdec, Bool.false_eq_true, if_false, Option.map_eq_some_iff, Prod.mk.injEq] at h ⊢
    obtain ⟨e', hget, rfl, _⟩ := h
    have hmem : e' ∈ upsert srcName srcIdx inc
        (flushList inc now ((((noteSubtype c inc forUs).table sl).get (keyOf sl inc.name)).getD [])) :=
      List.mem_of_getElem? hget
    refine ⟨?_, ?_⟩
    · rw [setTable_table]
      simp only [if_true, Table.get_set_self, Option.getD_some]
      exact hmem
    · rcases upsert_at_idx _ _ _ _ _ hget with ⟨e0, h3, rfl⟩ | rfl
      · obtain ⟨m1, m2, _, _, m5⟩ := (matchesRec_iff _ _).mp h3
        exact ⟨m1, m2, m5, fun hl => hl.2⟩
      · exact ⟨rfl, rfl, rfl, fun hl => hl.1⟩

theorem ingestAll_append (q : List (BList × Nat)) (ifName : BList) (ifIdx now : Nat) (forUs : Bool) :
    ∀ (a b : List Wire.Rec) (acc : Ingest),
      ingestAll q ifName ifIdx now forUs acc (a ++ b) =
        ingestAll q ifName ifIdx now forUs (ingestAll q ifName ifIdx now forUs acc a) b
  | [], _, _ => rfl
  | x :: a, b, acc => by
    simp only [List.cons_append, ingestAll]
    exact ingestAll_append q ifName ifIdx now forUs a b _

theorem ingestOne_changes_mono (q : List (BList × Nat)) (ifName : BList) (ifIdx now : Nat) (forUs : Bool) (acc : Ingest)
    (r : Wire.Rec) (x : Nat × BList) (h : x ∈ acc.changes) : x ∈ (ingestOne q ifName ifIdx now forUs acc r).changes := by
  unfold ingestOne
  simp only []
  repeat' split
  all_goals first
    | exact h
    | exact List.mem_append_left _ h

/-- what is recorded and cached unexpired survives the rest of the datagram (records with
    TTL ≥ 1, as decoded from a response) -/
theorem ingestAll_keeps (q : List (BList × Nat)) (ifName : BList) (ifIdx now : Nat) (forUs : Bool) (x : Nat × BList)
    (key name : BList) (rd : RData) : ∀ (rs : List Wire.Rec) (acc : Ingest), (∀ r ∈ rs, 1 ≤ r.ttl) →
    x ∈ acc.changes → Present acc.cache now key name rd →
    x ∈ (ingestAll q ifName ifIdx now forUs acc rs).changes ∧
      Present (ingestAll q ifName ifIdx now forUs acc rs).cache now key name rd
  | [], _, _, h1, h2 => ⟨h1, h2⟩
  | r :: rest, acc, httl, h1, h2 => by
    simp only [ingestAll]
    apply ingestAll_keeps q ifName ifIdx now forUs x key name rd rest _
      (fun r' hr' => httl r' (List.mem_cons_of_mem _ hr'))
    · exact ingestOne_changes_mono q ifName ifIdx now forUs acc r x h1
    · rw [ingestOne_cache]
      exact present_addOrUpdate _ _ _ _ _ _ (incLive_ofWire ifName ifIdx now r (httl r List.mem_cons_self))
        key name rd h2

theorem slotOf_addr {ty : Nat} (h : ty = 1 ∨ ty = 28) : slotOf ty = some .addr := by
  rcases h with rfl | rfl <;> rfl

theorem ingestOne_new_addr (q : List (BList × Nat)) (ifName : BList) (ifIdx now : Nat) (forUs : Bool) (acc : Ingest)
    (r : Wire.Rec) (hty : r.ty = 1 ∨ r.ty = 28) (httl : 1 ≤ r.ttl) (e : Entry)
    (hnew : (addOrUpdate acc.cache ifName ifIdx (ofWire ifName ifIdx now r) now forUs).result = some (e, true)) :
    (r.ty, r.name) ∈ (ingestOne q ifName ifIdx now forUs acc r).changes ∧
    Present (ingestOne q ifName ifIdx now forUs acc r).cache now (lower r.name) r.name (ofWire ifName ifIdx now r).rdata := by
  have hs : slotOf (ofWire ifName ifIdx now r).ty = some .addr := slotOf_addr hty
  obtain ⟨hmem, hn, ht, hr, hlive⟩ := addOrUpdate_result_entry _ _ _ _ _ _ .addr hs e true hnew
  refine ⟨?_, ?_⟩
  · unfold ingestOne
    simp only [hnew]
    have h12 : (e.record.ty == 12) = false := by
      rw [ht]
      show (r.ty == 12) = false
      rcases hty with h | h <;> simp [h]
    simp only [h12, Bool.false_and, Bool.false_eq_true, if_false]
    rw [ht, hn]
    exact List.mem_append_right _ List.mem_cons_self
  · rw [ingestOne_cache]
    exact ⟨e, hmem, hn, hr, hlive (incLive_ofWire ifName ifIdx now r httl)⟩

theorem group_of_present (c : Cache) (now : Nat) (name : BList) (ip ifName : BList) (ifIdx : Nat)
    (h : Present c now (lower name) name (.addr ip ifName ifIdx)) :
    ∃ addrs, (name, addrs) ∈ addressesForHost c now name ∧ (ip, ifName, ifIdx) ∈ addrs := by
  obtain ⟨e, he, hn, hr, hl⟩ := h
  have hitem : addrItemOf e = some (ip, ifName, ifIdx) := by simp [addrItemOf, hr]
  have hlive : (!e.record.isExpired now && (addrItemOf e).isSome) = true := by
    simp [Record.isExpired, hl, hitem]
  refine ⟨(((((c.addr.get (lower name)).getD []).filter fun e =>
      !e.record.isExpired now && (addrItemOf e).isSome).filter
      fun e => e.record.name == name).filterMap addrItemOf).eraseDups, ?_, ?_⟩
  · simp only [addressesForHost, List.mem_map, List.mem_eraseDups, List.mem_filter]
    exact ⟨name, ⟨e, ⟨he, hlive⟩, hn⟩, rfl⟩
  · simp only [List.mem_eraseDups, List.mem_filterMap, List.mem_filter, beq_iff_eq]
    exact ⟨e, ⟨⟨he, hlive⟩, hn⟩, hitem⟩

/-- **`AddressesFound` is complete (one datagram).**  `handle_response` reads the records
    `pre ++ r :: post`; `r` is an A / AAAA record with address `ip` whose name is being
    resolved on channel `ch`; when its turn comes `add_or_update` reports it as new (a record
    not cached yet, or a withdrawn one announced again - `Props.C04.revived_is_new`).  Then an
    `AddressesFound` for that owner name listing `ip` with the receiving interface goes to
    `ch` in this very `handle_response`.  (`httl`: the record and those read after it have
    TTL ≥ 1, as every record decoded from a response has - `Wire.readRR_spec`; the list is made
    of the entries that are unexpired at `now`.) -/
theorem hfound_complete_response (s : State) (now : Nat) (intf : Intf) (m : Wire.Msg) (pre : List Wire.Rec)
    (r : Wire.Rec) (post : List Wire.Rec) (ch : Nat) (ip : BList) (e : Entry)
    (hrecs : m.answers ++ m.authorities ++ m.additionals = pre ++ r :: post)
    (httl : ∀ x ∈ r :: post, 1 ≤ x.ttl)
    (hty : r.ty = 1 ∨ r.ty = 28) (hrd : r.rdata = .a ip ∨ r.rdata = .aaaa ip)
    (hch : resolverChan s r.name = some ch)
    (hnew : (addOrUpdate
        (ingestAll s.queriers intf.name intf.idx now (isForUs s m.answers)
          { cache := s.cache, timers := [], changes := [], outs := [] } pre).cache
        intf.name intf.idx (ofWire intf.name intf.idx now r) now (isForUs s m.answers)).result = some (e, true)) :
    ∃ addrs, Out.event ch (.hfound r.name addrs) ∈ (handleResponse s now intf m).2 ∧
      (ip, intf.name, intf.idx) ∈ addrs := by
  have h1 := ingestOne_new_addr s.queriers intf.name intf.idx now (isForUs s m.answers) _ r hty
    (httl r List.mem_cons_self) e hnew
  have hrdata : (ofWire intf.name intf.idx now r).rdata = .addr ip intf.name intf.idx := by
    rcases hrd with h | h <;> simp [ofWire, Record.new, h]
  rw [hrdata] at h1
  have h2 := ingestAll_keeps s.queriers intf.name intf.idx now (isForUs s m.answers) (r.ty, r.name) (lower r.name)
    r.name (.addr ip intf.name intf.idx) post _ (fun x hx => httl x (List.mem_cons_of_mem _ hx)) h1.1 h1.2
  have hfinal : ingestAll s.queriers intf.name intf.idx now (isForUs s m.answers)
      { cache := s.cache, timers := [], changes := [], outs := [] } (m.answers ++ m.authorities ++ m.additionals) =
      ingestAll s.queriers intf.name intf.idx now (isForUs s m.answers)
        (ingestOne s.queriers intf.name intf.idx now (isForUs s m.answers)
          (ingestAll s.queriers intf.name intf.idx now (isForUs s m.answers)
            { cache := s.cache, timers := [], changes := [], outs := [] } pre) r) post := by
    rw [hrecs, ingestAll_append]
    rfl
  obtain ⟨addrs, hg, hip⟩ := group_of_present _ now r.name ip intf.name intf.idx h2.2
  refine ⟨addrs, ?_, hip⟩
  unfold handleResponse
  simp only [List.mem_append]
  left; right
  simp only [hostFoundOuts, List.mem_flatMap, List.mem_filter]
  rw [hfinal]
  refine ⟨(r.ty, r.name), ⟨h2.1, by rcases hty with h | h <;> simp [h]⟩, ?_⟩
  have hch' : resolverChan (addTimers { s with cache := (ingestAll s.queriers intf.name intf.idx now (isForUs s m.answers)
        (ingestOne s.queriers intf.name intf.idx now (isForUs s m.answers)
          (ingestAll s.queriers intf.name intf.idx now (isForUs s m.answers)
            { cache := s.cache, timers := [], changes := [], outs := [] } pre) r) post).cache }
      (ingestAll s.queriers intf.name intf.idx now (isForUs s m.answers)
        (ingestOne s.queriers intf.name intf.idx now (isForUs s m.answers)
          (ingestAll s.queriers intf.name intf.idx now (isForUs s m.answers)
            { cache := s.cache, timers := [], changes := [], outs := [] } pre) r) post).timers) r.name = some ch := hch
  simp only [hch', List.mem_map]
  exact ⟨(r.name, addrs), hg, rfl⟩

/-- what `handle_response` emits for a datagram of an iteration (`p`, read after the datagrams
    `pre` on an interface the daemon has, in an enabled family, as a response) is an output of
    the iteration -/
theorem hfound_complete_iter (s : State) (now : Nat) (pkts pre : List Packet) (p : Packet) (post : List Packet)
    (cmds : List Command) (intf : Intf) (o : Out)
    (hp : pkts = pre ++ p :: post)
    (hread : handleRead (ingress s now pre).1 now p = handleResponse (ingress s now pre).1 now intf p.msg)
    (ho : o ∈ (handleResponse (ingress s now pre).1 now intf p.msg).2) :
    o ∈ (iter s now pkts cmds).2 := by
  rw [iter_eq]
  simp only [List.mem_append]
  repeat left
  rw [hp, ingress_append]
  simp only [List.mem_append, ingress]
  right; left
  rw [hread]
  exact ho

end Mdns.Client

namespace Mdns.Props.C04
open Mdns Mdns.Rec Mdns.Cache Mdns.Client

/-- the `is_new` flag `add_or_update` returns, as a function of the entries `es` cached under
    the name of the incoming record -/
def newFlag (inc : Record) (now : Nat) (es : List Entry) : Bool :=
  !hasMatch inc (flushList inc now es) ||
    (((flushList inc now es)[upsertIdx inc (flushList inc now es)]?).map fun old =>
      decide (old.record.ttl ≤ 1 ∧ inc.ttl > 1)).getD false

end Mdns.Props.C04

namespace Mdns.Client
open Mdns Mdns.Rec Mdns.Cache

/-- a record of a cached type in a message that is "for us" always gets an answer from
    `add_or_update`, with the flag `newFlag` -/
theorem addOrUpdate_result_some (c : Cache) (srcName : BList) (srcIdx : Nat) (inc : Record) (now : Nat) (sl : Slot)
    (hs : slotOf inc.ty = some sl) :
    ∃ e, (addOrUpdate c srcName srcIdx inc now true).result =
      some (e, Props.C04.newFlag inc now ((((noteSubtype c inc true).table sl).get (keyOf sl inc.name)).getD [])) := by
  unfold addOrUpdate
  simp only [hs, Bool.not_true, Bool.and_false, Bool.false_eq_true, if_false]
  have hex : ∃ e, (upsert srcName srcIdx inc
      (flushList inc now ((((noteSubtype c inc true).table sl).get (keyOf sl inc.name)).getD [])))[upsertIdx inc
      (flushList inc now ((((noteSubtype c inc true).table sl).get (keyOf sl inc.name)).getD []))]? = some e := by
    unfold upsert upsertIdx
    split
    · rename_i hm
      obtain ⟨pre, e0, post, _, _, _, h4, h5⟩ := resetFirst_spec inc _ hm
      rw [h4, h5]
      exact ⟨{ e0 with record := e0.record.resetTtl inc }, by simp⟩
    · exact ⟨⟨inc, srcName, srcIdx⟩, by simp⟩
  obtain ⟨e, he⟩ := hex
  exact ⟨e, by simp only [he, Option.map_some]; rfl⟩

theorem _root_.Mdns.Cache.Table.get_modify (t : Table) (k k' : BList) (f : List Entry → List Entry) :
    (t.modify k f).get k' = if k' = k then (t.get k').map f else t.get k' := by
  induction t with
  | nil => simp [Table.modify, Table.get]
  | cons p rest ih =>
    obtain ⟨pk, pv⟩ := p
    simp only [Table.modify, Table.get, List.map_cons, List.lookup] at ih ⊢
    by_cases h1 : k' = pk
    · subst h1
      by_cases h2 : k' = k
      · subst h2
        simp
      · have : (k' == k) = false := by simpa using h2
        simp [this, h2]
    · have hb : (k' == pk) = false := by simpa using h1
      by_cases h2 : pk = k
      · subst h2
        simp only [beq_self_eq_true, if_true, hb]
        exact ih
      · have hb2 : (pk == k) = false := by simpa using h2
        simp only [hb2, Bool.false_eq_true, if_false, hb]
        exact ih

theorem refreshDueResolutions_get_ne (c : Cache) (h key : BList) (now : Nat) (hne : key ≠ h) :
    (refreshDueResolutions c h now).1.addr.get key = c.addr.get key := by
  simp only [refreshDueResolutions, Table.get_modify, hne, if_false]

/-- **Refresh while the search is open.**  In the resolver-refresh phase of an iteration at
    `now`: for every searched name `key` and every address entry cached under it that has not
    expired and whose refresh mark has been reached, a query for that name - type A for a
    4-byte address, AAAA otherwise - goes out. -/
theorem refresh_query_go (now : Nat) (key : BList) (e : Entry) (ip ifn : BList) (ifi : Nat)
    (hlive : now < e.record.expires) (hdue : e.record.refresh ≤ now) (hrd : e.record.rdata = .addr ip ifn ifi) :
    ∀ (l : List BList) (c : Cache), key ∈ l → e ∈ (c.addr.get key).getD [] →
      ∃ known, Out.query [(key, if ip.length == 4 then 1 else 28)] known ∈ (refreshResolversGo c now l).2
  | [], _, h, _ => by cases h
  | h :: rest, c, hk, he => by
    simp only [refreshResolversGo]
    by_cases hh : key = h
    · subst hh
      have hm : sendQuery (refreshDueResolutions c key now).1 now [(key, if ip.length == 4 then 1 else 28)] ∈
          (refreshDueResolutions c key now).2.eraseDups.map (fun it =>
            sendQuery (refreshDueResolutions c key now).1 now [(key, if it.2.1.length == 4 then 1 else 28)]) ++
          (refreshResolversGo (refreshDueResolutions c key now).1 now rest).2 := List.mem_append_left _ ?_
      · exact ⟨_, hm⟩
      simp only [List.mem_map, List.mem_eraseDups]
      refine ⟨(key, ip, ifn, ifi), ?_, rfl⟩
      simp only [refreshDueResolutions, List.mem_filterMap, List.mem_filter]
      refine ⟨e, ⟨he, ?_⟩, by simp [addrItem, hrd]⟩
      simp [Record.isExpired, Record.refreshDue, hdue]
      omega
    · have hin : key ∈ rest := by
        rcases List.mem_cons.mp hk with h1 | h1
        · exact absurd h1 hh
        · exact h1
      obtain ⟨known, hq⟩ := refresh_query_go now key e ip ifn ifi hlive hdue hrd rest _ hin
        (by rw [refreshDueResolutions_get_ne c h key now hh]; exact he)
      exact ⟨known, List.mem_append_right _ hq⟩

end Mdns.Client
