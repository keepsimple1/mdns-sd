import Mdns.Lemmas.Txt
/-
  C16  TXT properties survive the trip unchanged.

  Model: `Mdns/Model/Txt.lean` (`ServiceInfo::new` validation, `encode_txt`, `decode_txt`,
  `decode_txt_unique`, `TxtProperties::get` of src/service_info.rs).
-/
namespace Mdns.Props.C16
open Mdns Mdns.Txt

/-- Round trip: every accepted property list is encoded without panic and decodes
    (first-key-wins) to exactly itself with later case-insensitive duplicates removed:
    same keys byte for byte, same value bytes, same order, `none` ≠ `some []`. -/
theorem txt_roundtrip (ps : List TProp) (h : accepted ps = true) :
    ∃ b, create ps = .ok b ∧ decodeTxtUnique b = .ok (dedupCI ps) := by
  unfold create
  rw [h]
  simp only [↓reduceIte]
  cases ps with
  | nil =>
    refine ⟨[0], by simp [encodeTxt, encodeProps], ?_⟩
    simp [decodeTxtUnique, decodeTxt_eq, decodeTxtL, Res.map, dedupCI, dedupGo]
  | cons p ps =>
    refine ⟨encL (p :: ps), ?_, ?_⟩
    · unfold encodeTxt
      rw [encodeProps_accepted _ h]
      rfl
    · simp [decodeTxtUnique, decodeTxt_eq, decodeTxtL_encL _ h, Res.map]

/-- What is not representable is refused at creation ... -/
theorem create_refuses (ps : List TProp) (h : accepted ps = false) : create ps = .err := by
  simp [create, h]

/-- ... and acceptance is exactly: ASCII key without '=', not empty, `key[=value]` ≤ 255 bytes. -/
theorem accepted_iff (ps : List TProp) :
    accepted ps = true ↔ ∀ p ∈ ps,
      isAscii p.key = true ∧ p.key.contains 0x3D = false ∧ p.key ≠ [] ∧ p.strLen ≤ 255 := by
  simp only [accepted, List.all_eq_true]
  exact forall_congr' fun p => imp_congr_right fun _ => acceptedProp_iff p

/-- Every encoded string is at most 255 bytes: the encoding of an accepted list is the
    concatenation of `length byte :: string` with nothing truncated. -/
theorem encode_strings_le_255 (ps : List TProp) (h : accepted ps = true) :
    encodeProps ps = .ok (encL ps) ∧ ∀ p ∈ ps, p.str.length ≤ 255 := by
  refine ⟨encodeProps_accepted ps h, ?_⟩
  intro p hp
  rw [str_length]
  exact ((accepted_iff ps).mp h p hp).2.2.2

/-- Decoding arbitrary bytes never fails ... -/
theorem decodeTxt_total (b : BList) : decodeTxt b ≠ .panic ∧ decodeTxtUnique b ≠ .panic := by
  simp [decodeTxtUnique, decodeTxt_eq, Res.map]

/-- ... and never reads outside the record: every decoded `key[=value]` is a contiguous
    piece of the input. -/
theorem decodeTxt_inside (b : BList) (ps : List TProp) (h : decodeTxt b = .ok ps) :
    ∀ p ∈ ps, p.str <:+: b := by
  rw [decodeTxt_eq] at h
  cases h
  exact decodeTxtL_infix b

/-- First-key-wins: the result is a sub-sequence of the input (order kept) without two
    keys that are equal ignoring case ... -/
theorem dedup_spec (ps : List TProp) :
    (dedupCI ps).Sublist ps ∧ (dedupCI ps).Pairwise (fun a b => lower a.key ≠ lower b.key) :=
  ⟨dedupGo_sublist ps [], dedupGo_pairwise ps []⟩

/-- ... and a case-insensitive lookup finds in it what it finds in the original list:
    the first occurrence of the key. -/
theorem lookup_ci (ps : List TProp) (k : BList) : lookup (dedupCI ps) k = lookup ps k :=
  find_dedupGo k ps [] (by simp)

/-- End to end: looking a key up (any letter case) in what the browser decodes gives the
    first property of the registered list with that key. -/
theorem lookup_after_roundtrip (ps : List TProp) (h : accepted ps = true) (k : BList) :
    ∃ b dec, create ps = .ok b ∧ decodeTxtUnique b = .ok dec ∧ lookup dec k = lookup ps k := by
  obtain ⟨b, hb, hd⟩ := txt_roundtrip ps h
  exact ⟨b, dedupCI ps, hb, hd, lookup_ci ps k⟩

/-- a non-trivial accepted list: duplicate keys in different case, boolean key, empty
    value, binary value containing '=' and NUL -/
def sample : List TProp :=
  [ ⟨[0x4B], some [0x3D, 0x00, 0xFF]⟩, ⟨[0x6B], some []⟩, ⟨[0x62], none⟩, ⟨[0x61], some []⟩ ]

/-- **The getters agree with the list and keep "no value" apart from "empty value" and from
    "no such key"** (`get`, `get_property_val`, `get_property_val_str`; compared with the real
    getters by the op `txt-getters`): all three answer for the first property whose key equals the
    wanted one case-insensitively; the string getter answers `none` exactly when the key is absent -
    a key without a value is present and reads as the empty string. -/
theorem getters_spec (ps : List TProp) (k : BList) :
    (getVal ps k = none ↔ lookup ps k = none) ∧
    (getValStr ps k = none ↔ lookup ps k = none) ∧
    (∀ p, lookup ps k = some p → getVal ps k = some p.val ∧ getValStr ps k = some (p.val.getD [])) ∧
    (∀ p, lookup ps k = some p → p.val = none → getVal ps k = some none ∧ getValStr ps k = some []) := by
  unfold getVal getValStr
  refine ⟨?_, ?_, ?_, ?_⟩
  · cases lookup ps k <;> simp
  · cases lookup ps k <;> simp
  · intro p h; simp [h]
  · intro p h hv; simp [h, hv]

/-- ... and after the trip to the browser: the getters on what is decoded from the encoding of an
    accepted list answer as on the list itself. -/
theorem getters_after_roundtrip (ps : List TProp) (h : accepted ps = true) (k : BList) :
    ∃ b, create ps = .ok b ∧ ∃ ds, decodeTxtUnique b = .ok ds ∧
      getVal ds k = getVal ps k ∧ getValStr ds k = getValStr ps k := by
  obtain ⟨b, hb, hd⟩ := txt_roundtrip ps h
  exact ⟨b, hb, dedupCI ps, hd, by unfold getVal; rw [lookup_ci], by unfold getValStr; rw [lookup_ci]⟩

/-- **Same order, nothing lost, when no key repeats**: a list without two keys equal ignoring
    case is its own first-key-wins image, so the browser decodes exactly the registered list -
    every property, in the registered order, byte for byte. -/
theorem roundtrip_exact_when_keys_distinct (ps : List TProp) (h : accepted ps = true)
    (hd : ps.Pairwise (fun a b => lower a.key ≠ lower b.key)) :
    dedupCI ps = ps ∧ ∃ b, create ps = .ok b ∧ decodeTxtUnique b = .ok ps := by
  have hid : dedupCI ps = ps := dedupGo_id ps [] hd (by simp)
  obtain ⟨b, hb, hdec⟩ := txt_roundtrip ps h
  exact ⟨hid, b, hb, by rw [hdec, hid]⟩

/-- **Only later duplicates are dropped**: every registered property has a kept property with
    the same key ignoring case (the first one with that key, by `lookup_ci`), and removing
    duplicates a second time (a browser that decodes what another decoded) changes nothing. -/
theorem dedup_drops_only_duplicates (ps : List TProp) :
    (∀ p ∈ ps, ∃ q ∈ dedupCI ps, lower q.key = lower p.key) ∧ dedupCI (dedupCI ps) = dedupCI ps := by
  refine ⟨fun p hp => ?_, dedupGo_id _ [] (dedup_spec ps).2 (by simp)⟩
  rcases dedupGo_covers ps [] p hp with h | h
  · simp at h
  · exact h

example : sample.Pairwise (fun a b => lower a.key ≠ lower b.key) → False := by decide
example : (dedupCI sample).Pairwise (fun a b => lower a.key ≠ lower b.key) ∧ accepted (dedupCI sample) = true := by
  decide

example : getValStr sample [0x62] = some [] ∧ getVal sample [0x62] = some none ∧ getValStr sample [0x7A] = none := by decide

example : accepted sample = true := by decide
example : dedupCI sample = [⟨[0x4B], some [0x3D, 0x00, 0xFF]⟩, ⟨[0x62], none⟩, ⟨[0x61], some []⟩] := by
  decide

/-- Defect D6 (repaired in /repo by `fix: refuse TXT properties with an empty key`):
    an empty key without value encodes as a zero length byte and hides what follows.
    With the repair such a list is refused. -/
example : create [⟨[], none⟩, ⟨[0x6B], some [0x76]⟩] = .err := by decide

/-- the pre-repair behaviour, on the pure encoder: the second property is lost -/
example : decodeTxtL (encL [⟨[], none⟩, ⟨[0x6B], some [0x76]⟩]) = [] := by
  simp [encL, TProp.str, decodeTxtL]

end Mdns.Props.C16
