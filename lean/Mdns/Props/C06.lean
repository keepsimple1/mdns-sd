import Mdns.Lemmas.Responder
import Mdns.Lemmas.ResponderQuery
/-
  C06  Queries get exactly the registered records, right values, right link.

  Model: `handleQuery` of `Mdns/Model/Responder.lean` (written from the code: a loop over the
  questions, inside it loops over the services, `add_answer_with_additionals`, the meta query,
  address answers, `add_answer_of_service`, known-answer suppression, legacy unicast), compared
  with the real daemon thread on every run: every response packet (destination, id, flags,
  echoed questions, every record of every section with TTL and cache-flush bit) agrees.

  The RULE (`specAnswers`, `specAdditionals` in `Lemmas/ResponderQuery.lean`) is written from the
  statement: per question and per announced service the records owed.  `handleQuery_spec` is
  the equivalence of the two: the response is exactly the rule's records that no known answer
  suppresses, with the rule's additionals.  From the rule: nothing for services that are not
  announced, not registered any more, or have no address on the link
  (`rule_nothing_unless_announced`, `rule_nothing_off_link`, `nothing_unless_announced`); TTL
  120 s / 4500 s, cache-flush bit on SRV/TXT/address and addresses inside the receiving
  interface's subnet for every record of every response (`response_records`); the values are
  those of the most recent register call (`register_stores_latest`); legacy unicast
  (`legacy_unicast`) and multicast (`multicast_reply`).

  Readings (DESIGN section 5): "no address on that link" is per IP family of the transport
  for PTR/SRV/TXT answers and per question type for host questions; the response is a list in
  which an address record appears once per service that shares the host name; the type name of
  a PTR question is compared exactly; SRV/TXT answers carry the owner name as asked.
-/
namespace Mdns.Props.C06
open Mdns Mdns.Responder

/-- `handle_query` equals the declarative rule.  For a query `p` read on interface `i` whose
    registry is `reg`: nothing is sent if the rule yields no (unsuppressed) answer; otherwise
    exactly one packet leaves on `i` over the querier's family - to the multicast group, or,
    if the source port is not 5353, to the sender - carrying as answers the rule's records that
    no known answer of the query suppresses and as additionals the rule's additionals, and the
    monitors get one `Respond` event. -/
theorem handleQuery_spec (s : State) (now : Nat) (p : RxPkt) (i : MyIntf) (reg : Registry)
    (hreg : alookup p.ifIdx s.registries = some reg) :
    (handleQuery s now p i).2 =
      if (specResp s p i reg).answers.isEmpty then []
      else
        (if i.hasFamily p.srcV4 then
          [Out.send i.index p.srcV4 (if p.srcPort != MDNS_PORT then some p.src else none)
            (responsePkt p.msg (p.srcPort != MDNS_PORT) (specResp s p i reg))]
         else []) ++ notify s (.respond i.name) :=
  handleQuery_eq_spec s now p i reg hreg

/-- the rule yields nothing for a service that is not announced on the interface (still
    probing, or status unknown) -/
theorem rule_nothing_unless_announced (known : List Wire.Rec) (i : MyIntf) (reg : Registry) (v4 : Bool) (qname : BList)
    (qtype : Nat) (svc : Service) (h : svc.announcedOn i.index = false) :
    ptrRule i reg v4 qname svc = [] ∧ ptrAdditionals known i reg v4 qname svc = [] ∧ addrRule i reg qname qtype svc = [] := by
  simp [ptrRule, ptrAdditionals, addrRule, h]

/-- the rule yields no type / subtype PTR, hence no additionals, for a service without an in-subnet
    address of the querier's family (for SRV / TXT see `rule_instance_announced`) -/
theorem rule_nothing_off_link (known : List Wire.Rec) (i : MyIntf) (reg : Registry) (v4 : Bool) (qname : BList) (svc : Service)
    (h : addrsOn svc i v4 = []) (hm : svc.matchesType qname = true) :
    ptrRule i reg v4 qname svc = [] ∧ ptrAdditionals known i reg v4 qname svc = [] := by
  simp [ptrRule, ptrAdditionals, h, hm]

/-- a service that is not announced on the interface, or has no in-subnet address of the
    querier's family, is never the instance an SRV / TXT / ANY question is answered from; and the
    instance it is answered from is a registered service whose CURRENT name - the name as
    registered, after the renames by conflict resolution - is the name asked for, up to letter
    case (repair of D39: the lower-case map key was resolved, so that a renamed name with
    upper-case letters was still answered for under its OLD name and not under the new one) -/
theorem rule_instance_announced (services : List (BList × Service)) (i : MyIntf) (reg : Registry) (v4 : Bool) (qname : BList)
    (svc : Service) (h : instanceOf services i reg v4 qname = some svc) :
    svc.announcedOn i.index = true ∧ addrsOn svc i v4 ≠ [] ∧
    ∃ k, (k, svc) ∈ services ∧ lower (reg.resolveName svc.fullname) = lower qname := by
  unfold instanceOf at h
  split at h
  · rename_i k svc' hf
    split at h
    · rename_i hc
      cases h
      simp only [Bool.and_eq_true, Bool.not_eq_true', List.isEmpty_eq_false_iff] at hc
      refine ⟨hc.1, hc.2, k, List.mem_of_find?_eq_some hf, ?_⟩
      simpa using List.find?_some hf
    · cases h
  · cases h

/-- Nothing at all - no packet, no event - for a query on an interface where no registered
    service is announced: never registered, unregistered (the map no longer has it), or all
    still probing. -/
theorem nothing_unless_announced (s : State) (now : Nat) (p : RxPkt) (i : MyIntf)
    (h : ∀ e ∈ s.services, e.2.announcedOn i.index = false) : (handleQuery s now p i).2 = [] :=
  handleQuery_silent s now p i h

/-- Every record of every response - answers and additionals - has TTL 4500 s without the
    cache-flush bit (PTR), 4500 s with the bit (TXT), 120 s with the bit (SRV, A, AAAA), and
    an address record carries an address inside the subnet of one of the receiving interface's
    addresses.  (Multicast response; for legacy unicast see `legacy_unicast`.) -/
theorem response_records (s : State) (p : RxPkt) (i : MyIntf) (reg : Registry) :
    (∀ a ∈ (specResp s p i reg).answers, RecordOk i a ∧ suppressedBy a p.msg.answers = false) ∧
    (∀ a ∈ (specResp s p i reg).additionals, RecordOk i a) := by
  constructor
  · intro a ha
    simp only [specResp, List.mem_filter, List.mem_flatMap] at ha
    obtain ⟨⟨q, _, hq⟩, hk⟩ := ha
    exact ⟨specAnswers_ok hq, by simpa [kept] using hk⟩
  · intro a ha
    simp only [specResp, List.mem_flatMap] at ha
    obtain ⟨q, _, hq⟩ := ha
    exact specAdditionals_ok hq

/-- Legacy unicast: a query whose source port is not 5353 is answered - if at all - by ONE
    packet to its sender (not to the multicast group), with the query's id, the questions
    echoed, and the cache-flush bit cleared on every record. -/
theorem legacy_unicast (s : State) (now : Nat) (p : RxPkt) (i : MyIntf) (hport : p.srcPort ≠ MDNS_PORT)
    (idx : Nat) (v4 : Bool) (dest : Option BList) (pkt : Packet)
    (h : Out.send idx v4 dest pkt ∈ (handleQuery s now p i).2) :
    dest = some p.src ∧ idx = i.index ∧ v4 = p.srcV4 ∧ pkt.id = p.msg.id ∧
    pkt.questions = p.msg.questions.map (fun q => (q.name, q.ty)) ∧
    (∀ a ∈ pkt.answers ++ pkt.additionals, a.flush = false) ∧ pkt.authorities = [] := by
  cases hreg : alookup p.ifIdx s.registries with
  | none => simp [handleQuery, hreg] at h
  | some reg =>
    obtain ⟨rfl, rfl, rfl, rfl⟩ := handleQuery_send hreg h
    have hp : (p.srcPort != MDNS_PORT) = true := bne_iff_ne.mpr hport
    rw [hp]
    refine ⟨rfl, rfl, rfl, rfl, rfl, fun a ha => ?_, rfl⟩
    -- every record went through `clearFlush`
    simp only [responsePkt, ↓reduceIte, List.mem_append, List.mem_map] at ha
    rcases ha with ⟨b, _, rfl⟩ | ⟨b, _, rfl⟩ <;> rfl

/-- Multicast: a query from port 5353 is answered - if at all - by ONE packet to the multicast
    group with id 0, no questions, and the rule's records with their cache-flush bits. -/
theorem multicast_reply (s : State) (now : Nat) (p : RxPkt) (i : MyIntf) (reg : Registry)
    (hreg : alookup p.ifIdx s.registries = some reg) (hport : p.srcPort = MDNS_PORT)
    (idx : Nat) (v4 : Bool) (dest : Option BList) (pkt : Packet)
    (h : Out.send idx v4 dest pkt ∈ (handleQuery s now p i).2) :
    dest = none ∧ idx = i.index ∧ v4 = p.srcV4 ∧ pkt.id = 0 ∧ pkt.questions = [] ∧ pkt.authorities = [] ∧
    pkt.answers = (specResp s p i reg).answers ∧ pkt.additionals = (specResp s p i reg).additionals := by
  obtain ⟨rfl, rfl, rfl, rfl⟩ := handleQuery_send hreg h
  have hp : (p.srcPort != MDNS_PORT) = false := by rw [hport]; rfl
  rw [hp]
  exact ⟨rfl, rfl, rfl, rfl, rfl, rfl, rfl, rfl⟩

/-! ### the values of the most recent register call -/

/-- same data, whatever the per-interface status -/
def SameData (a b : Service) : Prop :=
  a.ty = b.ty ∧ a.sub = b.sub ∧ a.fullname = b.fullname ∧ a.host = b.host ∧ a.port = b.port ∧ a.addrs = b.addrs ∧
  a.txt = b.txt ∧ a.probe = b.probe

theorem unsolOnIntf_data (now j : Nat) (u : Unsol) (i : MyIntf) : SameData (unsolOnIntf now j u i).svc u.svc := by
  unfold unsolOnIntf
  simp only []
  split <;> simp [SameData, Service.setStatus]

/-- After `register(svc)` the map holds, under the lower-cased full name, a service with exactly
    the data of this call (an earlier registration of the name, in whatever letter case, is
    replaced): these are the values every later answer is built from. -/
theorem register_stores_latest (s : State) (svc : Service) (now j : Nat) :
    ∃ svc', alookup (lower svc.fullname) (registerChecked s svc now j).1.services = some svc' ∧ SameData svc' svc := by
  refine ⟨(sendUnsolicited s svc now j).svc, by simp [registerChecked, alookup_aset_self], ?_⟩
  unfold sendUnsolicited
  simp only []
  exact foldl_inv (fun u => SameData u.svc svc) (unsolOnIntf now j) s.intfs { state := s, svc := svc }
    ⟨rfl, rfl, rfl, rfl, rfl, rfl, rfl, rfl⟩
    (fun u i _ hu => by
      have hd := unsolOnIntf_data now j u i
      unfold SameData at *
      simp only [hd, hu, and_self])

/-! ### non-vacuity: a concrete announced service, concrete queries -/

/-- the state after the life cycle of `web` on `eth0` (announced) -/
def announcedState : State :=
  (run (init 1000000 [eth0])
    [{ now := 1000000, jitter := 7, cmds := [.register web] }, { now := 1000007, jitter := 7 },
     { now := 1000257, jitter := 7 }, { now := 1000507, jitter := 7 }, { now := 1000757, jitter := 7 }]).1

def qPtr : Wire.Msg := { id := 4660, flags := 0, questions := [{ name := web.ty, ty := 12, cls := 1, flush := false }],
                         answers := [], authorities := [], additionals := [] }

/-- `192.168.1.50:5353` / `192.168.1.50:40000` -/
def src5353 : BList := [0x31,0x39,0x32,0x2e,0x31,0x36,0x38,0x2e,0x31,0x2e,0x35,0x30,0x3a,0x35,0x33,0x35,0x33]
def src40000 : BList := [0x31,0x39,0x32,0x2e,0x31,0x36,0x38,0x2e,0x31,0x2e,0x35,0x30,0x3a,0x34,0x30,0x30,0x30,0x30]

/-- a PTR question for the type: PTR answer, SRV + TXT + A additionals, multicast, id 0 -/
example :
    (handleQuery announcedState 1002000 { ifIdx := 2, sockV4 := true, src := src5353, srcV4 := true, srcPort := 5353, msg := qPtr } eth0).2 =
      [.send 2 true none
        { flags := FLAGS_RESPONSE,
          answers := [{ name := web.ty, ty := 12, flush := false, ttl := 4500, rdata := .ptr web.fullname }],
          additionals := [{ name := web.fullname, ty := 33, flush := true, ttl := 120, rdata := .srv 0 0 80 web.host },
                          { name := web.fullname, ty := 16, flush := true, ttl := 4500, rdata := .txt [0] },
                          { name := web.host, ty := 1, flush := true, ttl := 120, rdata := .a [192, 168, 1, 20] }] }] := by
  decide +kernel

/-- the same question from port 40000: unicast to the sender, id and question echoed, no
    cache-flush bit anywhere -/
example :
    (handleQuery announcedState 1002000 { ifIdx := 2, sockV4 := true, src := src40000, srcV4 := true, srcPort := 40000, msg := qPtr } eth0).2 =
      [.send 2 true (some src40000)
        { id := 4660, flags := FLAGS_RESPONSE, questions := [(web.ty, 12)],
          answers := [{ name := web.ty, ty := 12, flush := false, ttl := 4500, rdata := .ptr web.fullname }],
          additionals := [{ name := web.fullname, ty := 33, flush := false, ttl := 120, rdata := .srv 0 0 80 web.host },
                          { name := web.fullname, ty := 16, flush := false, ttl := 4500, rdata := .txt [0] },
                          { name := web.host, ty := 1, flush := false, ttl := 120, rdata := .a [192, 168, 1, 20] }] }] := by
  decide +kernel

/-- while `web` is still probing the same question gets nothing -/
example :
    (handleQuery (iter (init 1000000 [eth0]) { now := 1000000, jitter := 7, cmds := [.register web] }).1 1000100
      { ifIdx := 2, sockV4 := true, src := src5353, srcV4 := true, srcPort := 5353, msg := qPtr } eth0).2 = [] := by
  decide +kernel

/-! ### a renamed instance name with upper-case letters (repair of D39) -/

/-- `Web._http._tcp.local.` was renamed to `Web (2)._http._tcp.local.` by conflict resolution -/
def renamedFull : BList :=
  [0x57,0x65,0x62,0x20,0x28,0x32,0x29,0x2e,0x5f,0x68,0x74,0x74,0x70,0x2e,0x5f,0x74,0x63,0x70,0x2e,0x6c,0x6f,0x63,0x61,0x6c,0x2e]

def renamedReg : Registry := { nameChanges := [(webMixed.fullname, renamedFull)] }

def renamedServices : List (BList × Service) := [(lower webMixed.fullname, webMixed.setStatus 2 .announced)]

/-- REGRESSION (D39, witness corpus/C08/d39_mixed_case_rename_not_defended.ops): after the
    rename the daemon answers SRV / TXT / ANY questions for the NEW name (asked in any letter
    case) and no longer for the original one; before the repair it was the other way round for
    names with upper-case letters -/
example :
    (instanceOf renamedServices eth0dual renamedReg true (lower renamedFull)).isSome = true ∧
    (instanceOf renamedServices eth0dual renamedReg true renamedFull).isSome = true ∧
    instanceOf renamedServices eth0dual renamedReg true webMixed.fullname = none ∧
    instanceOf renamedServices eth0dual renamedReg true (lower webMixed.fullname) = none := by decide

/-- the instance an SRV / TXT / ANY question is answered from does not depend on the letter
    case of the question, nor on the key the service is filed under -/
theorem rule_instance_case_insensitive (services : List (BList × Service)) (i : MyIntf) (reg : Registry) (v4 : Bool)
    (q1 q2 : BList) (h : lower q1 = lower q2) : instanceOf services i reg v4 q1 = instanceOf services i reg v4 q2 := by
  unfold instanceOf
  rw [h]

/-! ### the SRV target after a host rename (repair of D37) -/

/-- the SRV record of a direct answer (SRV / ANY question on the instance name) names the
    CURRENT host name of the service - the name as registered resolved through the renames by
    conflict resolution - and the address records added to an SRV answer are filed under that
    same name: the name the daemon answers address questions for (`addrRule`).  Before the repair
    both carried the host name as registered, which the daemon no longer answers for. -/
theorem rule_srv_target_current (reg : Registry) (i : MyIntf) (v4 : Bool) (qname : BList) (qtype : Nat) (svc : Service) :
    (∀ a ∈ instRule reg qname qtype (some svc), a.ty = TYPE_SRV → a.rdata = .srv 0 0 svc.port (reg.resolveName svc.host)) ∧
    (∀ a ∈ instAdditionals reg i v4 qtype (some svc), a.name = reg.resolveName svc.host) ∧
    (∀ a ∈ addrRule i reg (reg.resolveName svc.host) TYPE_ANY svc, a.name = reg.resolveName svc.host) := by
  refine ⟨fun a ha hty => ?_, fun a ha => ?_, fun a ha => ?_⟩
  · rcases List.mem_append.mp ha with ha | ha
    · rcases mem_ite ha with ha | ha
      · cases List.mem_singleton.mp ha
        rfl
      · cases ha
    · rcases mem_ite ha with ha | ha
      · cases List.mem_singleton.mp ha
        cases hty
      · cases ha
  · rcases mem_ite ha with ha | ha
    · obtain ⟨_, _, rfl⟩ := List.mem_map.mp ha
      rfl
    · cases ha
  · rcases mem_ite ha with ha | ha
    · cases ha
    · rcases mem_ite ha with ha | ha
      · cases ha
      · obtain ⟨_, _, rfl⟩ := List.mem_map.mp ha
        rfl

/-- the host of `web` was renamed `alpha.local.` -> `alpha-2.local.` by conflict resolution -/
def renamedHostReg : Registry :=
  { nameChanges := [(web.host, [0x61,0x6c,0x70,0x68,0x61,0x2d,0x32,0x2e,0x6c,0x6f,0x63,0x61,0x6c,0x2e])] }

/-- REGRESSION (D37, witness corpus/C08/d37_srv_target_after_host_rename.ops): the answer to an
    SRV question on the instance name has the NEW host name as target and brings the address
    under the new host name -/
example :
    instRule renamedHostReg web.fullname TYPE_SRV (some web) =
      [{ name := web.fullname, ty := TYPE_SRV, flush := true, ttl := TTL_HOST,
         rdata := .srv 0 0 80 [0x61,0x6c,0x70,0x68,0x61,0x2d,0x32,0x2e,0x6c,0x6f,0x63,0x61,0x6c,0x2e] }] ∧
    instAdditionals renamedHostReg eth0 true TYPE_SRV (some web) =
      [{ name := [0x61,0x6c,0x70,0x68,0x61,0x2d,0x32,0x2e,0x6c,0x6f,0x63,0x61,0x6c,0x2e], ty := TYPE_A, flush := true, ttl := TTL_HOST,
         rdata := .a [192, 168, 1, 20] }] := by decide

end Mdns.Props.C06
