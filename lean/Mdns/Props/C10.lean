import Mdns.Lemmas.Cache
/-
  C10  Known answers suppress exactly what they should, on both sides.

  Model: `Mdns/Model/Record.lean` (`matches`, `suppressed_by_answer`, `suppressed_by`,
  `halflife_passed`, `update_ttl` of src/dns_parser.rs) and `Mdns/Model/Cache.lean`
  (`get_known_answers` of src/dns_cache.rs).
  Component level: "all other matching records are still answered" and "still sends the
  query on every interface" are clauses about `handle_query` / `send_query_vec` of the
  daemon and are not part of this file.
-/
namespace Mdns.Props.C10
open Mdns Mdns.Rec Mdns.Rec.Record Mdns.Cache

/-- What `matches` compares: owner name, type, class, **the cache-flush bit**, and the RDATA
    fields of the record kind - for addresses including the interface the record was
    learned on. -/
theorem matches_iff (a b : Record) :
    a.matchesRec b = true ↔
      a.name = b.name ∧ a.ty = b.ty ∧ a.cls = b.cls ∧ a.flush = b.flush ∧ a.rdata = b.rdata :=
  matchesRec_iff a b

/-- What the code does (after the repair of D18): an answer `mine` is left out because of the
    known answer `other` iff `other` is that same record - owner (ASCII letter case ignored),
    type, class without the cache-flush bit, RDATA as on the wire - and its TTL is above half
    of mine.  The integer division `mine.ttl / 2` of the code is the exact half:
    `other.ttl > mine.ttl / 2` iff `2·other.ttl > mine.ttl`. -/
theorem suppress_iff (mine other : Record) :
    mine.suppressedByAnswer other = true ↔ mine.sameRecord other = true ∧ 2 * other.ttl > mine.ttl := by
  simp only [suppressedByAnswer, sameRecord, rrdataMatch, Bool.and_eq_true, decide_eq_true_eq]
  exact and_congr_right fun _ => by omega

/-- Against a whole query: suppressed iff one of its answers suppresses. -/
theorem suppressedBy_iff (mine : Record) (answers : List Record) :
    mine.suppressedBy answers = true ↔ ∃ o ∈ answers, mine.sameRecord o = true ∧ 2 * o.ttl > mine.ttl := by
  simp only [suppressedBy, List.any_eq_true, suppress_iff]

/-- **The property statement** for the responder: an answer is left out iff the known answer
    is that same record - owner, type, class (without the cache-flush bit), RDATA (as on the
    wire) - with a TTL above half. -/
def C10_responder_full : Prop :=
  ∀ mine other : Record, mine.suppressedByAnswer other = true ↔ mine.sameRecord other = true ∧ 2 * other.ttl > mine.ttl

/-- The statement holds of the code at full strength (it did not before the repair of D18, when
    `suppressed_by_answer` used `matches`: cache-flush bit, letter case and - for addresses -
    the interface had to agree as well). -/
theorem responder_full : C10_responder_full := suppress_iff

/-- a unique record as the responder holds it (cache-flush bit set), TTL 120 -/
def mineSrv : Record := Record.new [0x69] 33 1 true 120 (.srv 0 0 80 [0x68]) 0
/-- the same record as a compliant querier lists it (RFC 6762 section 7.1 / 10.2: bit clear), TTL 100 -/
def knownSrv : Record := Record.new [0x69] 33 1 false 100 (.srv 0 0 80 [0x68]) 0

/-- Regression (defect D18, repaired): the same record listed with the cache-flush bit clear,
    in another letter case, or - an address - learned on another interface, with a TTL above
    half, is honoured; `matches` would have refused all three. -/
theorem D18_regression :
    mineSrv.suppressedByAnswer knownSrv = true ∧ mineSrv.matchesRec knownSrv = false ∧
    (Record.new [0x49] 33 1 true 120 (.srv 0 0 80 [0x68]) 0).suppressedByAnswer knownSrv = true ∧
    (Record.new [0x68] 1 1 true 120 (.addr [10, 0, 0, 1] [0x65] 2) 0).suppressedByAnswer
      (Record.new [0x68] 1 1 true 61 (.addr [10, 0, 0, 1] [] 0) 0) = true := by
  decide

/-- Never too much: an answer is only ever suppressed by that same record (owner, type, class,
    RDATA) with a TTL above half - "never when the listed TTL is below half or the record
    differs". -/
theorem suppress_sound (mine other : Record) (h : mine.suppressedByAnswer other = true) :
    mine.sameRecord other = true ∧ 2 * other.ttl > mine.ttl :=
  (suppress_iff mine other).mp h

/-- ... and never too little: that same record with a TTL above half always suppresses,
    whatever the cache-flush bits and interfaces. -/
theorem suppress_complete (mine other : Record) (h : mine.sameRecord other = true) (ht : 2 * other.ttl > mine.ttl) :
    mine.suppressedByAnswer other = true :=
  (suppress_iff mine other).mpr ⟨h, ht⟩

/-- **Known answers** listed for a question `name`/`ty` at `now` are exactly the entries
    cached for it (`entriesFor`: the PTR / SRV / TXT entries under `name`, for A and AAAA all
    address entries under the lower-cased `name`, nothing for other types) that are shared
    (cache-flush bit clear), whose half-life has not passed, `now ≤ created + 500·ttl`, and of
    which half the TTL is really left until `expires`: `1000·ttl ≤ 2·(expires − now)`. -/
theorem known_iff (c : Cache) (name : BList) (ty now : Nat) (e : Entry) :
    e ∈ knownAnswers c name ty now ↔
      e ∈ entriesFor c name ty ∧ e.record.flush = false ∧ now ≤ e.record.created + 500 * e.record.ttl ∧
        1000 * e.record.ttl ≤ 2 * (e.record.expires - now) := by
  simp only [knownAnswers, List.mem_filter, isUnique, Bool.and_eq_true, Bool.not_eq_true', halflifePassed_eq_false_iff,
    decide_eq_true_eq, ge_iff_le, and_assoc]

/-- **Never one with less than half of its lifetime left** - also when the end of the record's
    life was brought forward (a cache flush by a same-name record, `verify`): a listed record
    really lives for at least half its TTL from `now` on, `now + 500·ttl ≤ expires`.
    (Before the repair of C10-F1 only `created + ttl` was looked at.) -/
theorem known_half_really_left (c : Cache) (name : BList) (ty now : Nat) (e : Entry)
    (h : e ∈ knownAnswers c name ty now) (hpos : 0 < e.record.ttl) : now + 500 * e.record.ttl ≤ e.record.expires := by
  have := ((known_iff c name ty now e).mp h).2.2.2
  omega

/-- For a record whose end was never brought forward (`expires = created + 1000·ttl`) the clause on
    `expires` follows from the half-life clause: such a record is listed exactly until its half-life. -/
theorem known_iff_untouched (c : Cache) (name : BList) (ty now : Nat) (e : Entry)
    (hexp : e.record.expires = e.record.created + 1000 * e.record.ttl) :
    e ∈ knownAnswers c name ty now ↔
      e ∈ entriesFor c name ty ∧ e.record.flush = false ∧ now ≤ e.record.created + 500 * e.record.ttl := by
  rw [known_iff, hexp]
  constructor
  · rintro ⟨a, b, c', _⟩; exact ⟨a, b, c'⟩
  · rintro ⟨a, b, c'⟩; exact ⟨a, b, c', by omega⟩

theorem entriesFor_cases (c : Cache) (name : BList) (ty : Nat) :
    entriesFor c name ty =
      if ty = 12 then (c.ptr.get name).getD []
      else if ty = 33 then (c.srv.get name).getD []
      else if ty = 1 ∨ ty = 28 then (c.addr.get (lower name)).getD []
      else if ty = 16 then (c.txt.get name).getD []
      else [] := rfl

/-- Listed answers keep the order of the cache and nothing is listed twice that is cached once. -/
theorem known_sublist (c : Cache) (name : BList) (ty now : Nat) :
    (knownAnswers c name ty now).Sublist (entriesFor c name ty) := List.filter_sublist

/-- **The written TTL** (`update_ttl` on the copy that goes into the query).  For a record
    created at or before `now` whose half-life has not passed (the half-life clause of
    `known_iff`) and whose TTL fits `u32`: no underflow, and the written TTL `t'` is the
    remaining lifetime rounded up to whole seconds,
    `1000·t' − 1000 < created + 1000·ttl − now ≤ 1000·t'`; it is at least half the TTL. -/
theorem written_ttl (r : Record) (now : Nat) (hc : r.created ≤ now) (hhalf : now ≤ r.created + 500 * r.ttl)
    (h32 : r.ttl < 4294967296) :
    ∃ r', r.updateTtl now = .ok r' ∧
      1000 * r'.ttl < r.created + 1000 * r.ttl - now + 1000 ∧ r.created + 1000 * r.ttl - now ≤ 1000 * r'.ttl ∧
      r.ttl ≤ 2 * r'.ttl ∧ r'.ttl ≤ r.ttl ∧
      r' = { r with ttl := r'.ttl } := by
  obtain ⟨d, rfl⟩ := Nat.exists_eq_add_of_le hc
  have hu := updateTtl_eq r (r.created + d)
  rw [Nat.add_sub_add_left]
  rw [Nat.add_sub_cancel_left] at hu
  -- `d` ms have passed, `q` whole seconds of them
  have h1 := Nat.mul_div_le d 1000
  have h2 := Nat.lt_mul_div_succ d (Nat.zero_lt_succ 999)
  generalize d / 1000 = q at h1 h2 hu
  have hd : d ≤ 500 * r.ttl := Nat.le_of_add_le_add_left hhalf
  have hq : q ≤ r.ttl := by omega
  have a : 1000 * (r.ttl - q) < 1000 * r.ttl - d + 1000 ∧ 1000 * r.ttl - d ≤ 1000 * (r.ttl - q) ∧
      r.ttl ≤ 2 * (r.ttl - q) := by omega
  rw [hu (Nat.lt_of_le_of_lt hq h32), if_neg (Nat.not_lt.mpr hq)]
  exact ⟨_, rfl, a.1, a.2.1, a.2.2, Nat.sub_le _ _, rfl⟩

/-- Every listed known answer can be written: no panic for any entry `get_known_answers` returns. -/
theorem known_written (c : Cache) (name : BList) (ty now : Nat) (e : Entry) (h : e ∈ knownAnswers c name ty now)
    (hc : e.record.created ≤ now) (h32 : e.record.ttl < 4294967296) : e.record.updateTtl now ≠ .panic := by
  obtain ⟨r', hr, _⟩ := written_ttl e.record now hc ((known_iff c name ty now e).mp h).2.2.1 h32
  rw [hr]
  intro h; cases h

/-- Outside the guard the subtraction does underflow (why the guard matters): one full
    second past the end of a record's life `update_ttl` panics. -/
theorem updateTtl_underflow (r : Record) (now : Nat) (h : now ≥ r.created + 1000 * r.ttl + 1000)
    (h32 : (now - r.created) / 1000 < 4294967296) : r.updateTtl now = .panic := by
  rw [updateTtl_eq r now h32, if_pos]
  exact (Nat.le_div_iff_mul_le (Nat.zero_lt_succ 999)).mpr (by omega)

/-- The two sides fit: a known answer written by this querier before the half-life (strictly)
    suppresses the same record at a responder that would send the original TTL. -/
theorem written_suppresses (r : Record) (now : Nat) (hc : r.created ≤ now) (hhalf : now < r.created + 500 * r.ttl)
    (h32 : r.ttl < 4294967296) :
    ∃ r', r.updateTtl now = .ok r' ∧ r.suppressedByAnswer r' = true := by
  obtain ⟨r', h1, h2, h3, _, _, h6⟩ := written_ttl r now hc (by omega) h32
  refine ⟨r', h1, ?_⟩
  rw [suppress_iff, sameRecord_iff, h6]
  exact ⟨⟨rfl, rfl, rfl, rfl⟩, by simp only []; omega⟩

/-! ### Non-vacuity -/

def ptrRec : Record := Record.new [0x74] 12 1 false 4500 (.ptr [0x69]) 1000
def uniqueRec : Record := Record.new [0x74] 12 1 true 4500 (.ptr [0x6A]) 1000
def cache1 : Cache := { ptr := [([0x74], [⟨ptrRec, [0x65], 2⟩, ⟨uniqueRec, [0x65], 2⟩])] }

/-- a shared PTR is listed until its half-life (2 250 000 ms after creation), the unique one never -/
example : (knownAnswers cache1 [0x74] 12 2251000).map (·.record.rdata) = [.ptr [0x69]] := by decide
example : knownAnswers cache1 [0x74] 12 2251001 = [] := by decide
/-- C10-F1 regression: the same PTR, its end brought forward to 4 000 (flushed at 3 000): at 3 500
    it is 2.5 s old, far from its half-life - and not listed any more -/
def flushedPtr : Record := { ptrRec with expires := 4000 }
def cache2 : Cache := { ptr := [([0x74], [⟨flushedPtr, [0x65], 2⟩])] }
example : knownAnswers cache2 [0x74] 12 3500 = [] := by decide
example : flushedPtr.halflifePassed 3500 = false := by decide
/-- written TTL one and a half seconds after creation: 4499 -/
example : ptrRec.updateTtl 2500 = .ok { ptrRec with ttl := 4499 } := by decide
example : ptrRec.updateTtl 4502000 = .panic := by decide
/-- same record, TTL 2251 of 4500: suppressed; 2250: not -/
example : ptrRec.suppressedByAnswer { ptrRec with ttl := 2251 } = true := by decide
example : ptrRec.suppressedByAnswer { ptrRec with ttl := 2250 } = false := by decide
/-- another instance: not suppressed -/
example : ptrRec.suppressedByAnswer { ptrRec with rdata := .ptr [0x6A] } = false := by decide
/-- a copy listed with another TTL is that same record, so `suppress_complete` speaks of it -/
example : ptrRec.flush = ({ ptrRec with ttl := 2251 } : Record).flush ∧
    ptrRec.sameRecord { ptrRec with ttl := 2251 } = true := by decide

end Mdns.Props.C10
