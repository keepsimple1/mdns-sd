import Mdns.Model.Label
import Mdns.Lemmas.Names
import Mdns.Props.C08
import Mdns.Driver.C15
/-
  C15  No API argument and no packet can crash a caller or kill the daemon.

  What is proved here, for all inputs:
  * the functions that every string argument of a public function goes through - the four
    name checks, the two renaming functions (any number of times in a row) and the label
    writer of the encoder - return for every byte string: the models of the checks and of the
    renaming functions have an explicit `panic` outcome at every indexing, slicing, arithmetic
    and assertion of the Rust, and none of them is reachable; the label writer's only partial
    step is `len -= 1`, which is shown never to be taken at 0;
  * the label writer never emits more than 63 bytes, its `len -= 1` loop stops at a character
    boundary without reaching below 0, the length byte is exact and never looks like a
    compression pointer, and labels of at most 63 bytes are written unchanged;
  * the verdict function evaluated on the observations of the real daemon threads says `none`
    exactly when no calling thread panicked, no daemon thread ended without being asked to,
    and every daemon answered `status()` / `get_metrics()` after the input.
  The decoder half of the property (no packet makes `DnsIncoming::new` panic or loop) is C01's
  theorems (`Props/C01.lean`); the daemon-level half (hostile arguments and packets against
  running daemons, renames, deferred work) has no model of its own: it is decided by the
  verdict function on histories executed by the real code.
-/
namespace Mdns.Props.C15
open Mdns Mdns.Names Mdns.Label Mdns.Trace Mdns.Driver.C15

/-- None of the four checks can panic, whatever the string and the limit. -/
theorem checks_never_panic (s : BList) (limit : Nat) :
    checkServiceNameLength s limit ≠ .panic ∧ checkDomainSuffix s ≠ .panic ∧
    checkServiceName s ≠ .panic ∧ checkHostname s ≠ .panic := by
  have hsuf : checkDomainSuffix s ≠ .panic := by
    unfold checkDomainSuffix; split <;> nofun
  refine ⟨?_, hsuf, ?_, ?_⟩
  · unfold checkServiceNameLength
    repeat' split
    all_goals nofun
  · unfold checkServiceName
    split
    · nofun
    · exact absurd ‹_› hsuf
    · repeat' split
      all_goals nofun
  · unfold checkHostname
    repeat' split
    all_goals nofun

/-- `n` conflicts in a row: rename, and rename the result, ... -/
def renameN (host : Bool) : Nat → BList → Res BList
  | 0, s => .ok s
  | n + 1, s =>
    match (if host then hostnameChange s else nameChange s) with
    | .ok s' => renameN host n s'
    | .err => .err
    | .panic => .panic

/-- Any number of consecutive renames of any string returns a name: no error, no panic
    (in particular none at the counter 4294967295, D14). -/
theorem rename_chain_total (host : Bool) (n : Nat) (s : BList) : ∃ s', renameN host n s = .ok s' := by
  induction n generalizing s with
  | zero => exact ⟨s, rfl⟩
  | succ n ih =>
    obtain ⟨⟨a, ha⟩, ⟨b, hb⟩⟩ := Mdns.Props.C08.rename_total s
    cases host with
    | true =>
      obtain ⟨s', hs'⟩ := ih b
      exact ⟨s', by simp [renameN, hb, hs']⟩
    | false =>
      obtain ⟨s', hs'⟩ := ih a
      exact ⟨s', by simp [renameN, ha, hs']⟩

theorem cutFrom_le (s : BList) (n : Nat) : cutFrom s n ≤ n := by
  induction n with
  | zero => simp [cutFrom]
  | succ n ih =>
    unfold cutFrom
    split
    · exact Nat.le_refl _
    · omega

theorem cutFrom_boundary (s : BList) (n : Nat) : isCharBoundary s (cutFrom s n) = true := by
  induction n with
  | zero => simp [cutFrom, isCharBoundary]
  | succ n ih =>
    unfold cutFrom
    split
    · assumption
    · exact ih

/-- At most 63 bytes of a label are written, and never more than it has. -/
theorem cutLen_le (s : BList) : cutLen s ≤ 63 ∧ cutLen s ≤ s.length := by
  have := cutFrom_le s (min s.length MAX_LABEL_LEN)
  unfold cutLen
  simp only [MAX_LABEL_LEN] at this ⊢
  omega

/-- The `while !s.is_char_boundary(len) { len -= 1 }` loop ends at a character boundary; it
    cannot run below 0 (`cutFrom` at 0 returns without subtracting: index 0 is a boundary). -/
theorem cutLen_boundary (s : BList) : isCharBoundary s (cutLen s) = true :=
  cutFrom_boundary s _

/-- What is written is the length byte followed by that many bytes, at most 64 bytes in all;
    `len as u8` is exact, and its two top bits are clear (it cannot be read as a pointer). -/
theorem writeUtf8_shape (s : BList) :
    writeUtf8 s = UInt8.ofNat (cutLen s) :: s.take (cutLen s) ∧
    (UInt8.ofNat (cutLen s)).toNat = cutLen s ∧ (UInt8.ofNat (cutLen s)).toNat < 64 ∧
    (s.take (cutLen s)).length = cutLen s ∧ (writeUtf8 s).length ≤ 64 := by
  obtain ⟨h1, h2⟩ := cutLen_le s
  have hm : (UInt8.ofNat (cutLen s)).toNat = cutLen s := by
    simp only [UInt8.toNat_ofNat']
    omega
  refine ⟨rfl, hm, by omega, by simp [List.length_take]; omega, ?_⟩
  simp only [writeUtf8, List.length_cons, List.length_take]
  omega

/-- A label of at most 63 bytes - every label the rest of the encoder model deals with - is
    written as it is. -/
theorem short_label_unchanged (s : BList) (h : s.length ≤ 63) :
    cutLen s = s.length ∧ writeUtf8 s = UInt8.ofNat s.length :: s := by
  have hb : isCharBoundary s s.length = true := by
    unfold isCharBoundary
    split
    · rfl
    · simp
  have hc : cutLen s = s.length := by
    unfold cutLen
    have : min s.length MAX_LABEL_LEN = s.length := by simp only [MAX_LABEL_LEN]; omega
    rw [this]
    cases hl : s.length with
    | zero => simp [cutFrom]
    | succ k =>
      unfold cutFrom
      rw [← hl, if_pos hb]
  exact ⟨hc, by simp [writeUtf8, hc]⟩

/-- In text where no four consecutive bytes are all continuation bytes (true of every valid
    UTF-8 string: a character has at most three), the cut loses at most three bytes. -/
theorem cut_loses_at_most_three (s : BList)
    (hutf : ∀ i, i + 3 ≤ min s.length 63 → isCharBoundary s i = true ∨ isCharBoundary s (i + 1) = true ∨
      isCharBoundary s (i + 2) = true ∨ isCharBoundary s (i + 3) = true) :
    min s.length 63 ≤ cutLen s + 3 := by
  -- the loop stops at the first boundary it meets: no boundary `j ≤ n` is skipped
  have hge : ∀ j, isCharBoundary s j = true → j ≤ min s.length 63 → j ≤ cutLen s := by
    intro j hb
    show j ≤ min s.length 63 → j ≤ cutFrom s (min s.length 63)
    generalize min s.length 63 = n
    induction n with
    | zero => exact id
    | succ n ih =>
      intro h
      rw [cutFrom]
      split
      · exact h
      · next hn =>
        have : j ≠ n + 1 := fun e => hn (e ▸ hb)
        exact ih (by omega)
  refine Nat.le_of_not_lt fun hlt => ?_
  rcases hutf (cutLen s + 1) (by omega) with h | h | h | h
  all_goals
    have := hge _ h (by omega)
    omega

/-- `monitorCrash` is the statement's observation: it accepts a history exactly when no call
    panicked in the calling thread, no daemon thread ended unless the history itself asked
    that daemon to shut down, and every `status` / `get_metrics` request made after the input
    (to a daemon that is not asked to shut down) was answered. -/
theorem monitorCrash_none_iff (script : List Cmd) (obs : List Obs) :
    monitorCrash script obs = none ↔
      (callerPanicked obs = false ∧
       (∀ d, d < daemonCount script → threadEnded obs d = true → shutdownAsked script d = true) ∧
       (∀ p ∈ probes script, answered obs p = true)) := by
  unfold monitorCrash
  constructor
  · intro h
    repeat' split at h
    all_goals first | (cases h; done) | skip
    rename_i h1 h2 h3
    refine ⟨by simpa using h1, ?_, ?_⟩
    · intro d hd he
      simp only [List.any_eq_true, List.mem_range, Bool.and_eq_true, Bool.not_eq_eq_eq_not, Bool.not_true,
        not_exists, not_and] at h2
      have := h2 d hd he
      cases hs : shutdownAsked script d with
      | true => rfl
      | false => exact absurd hs this
    · simpa using h3
  · intro ⟨h1, h2, h3⟩
    have e2 : ((List.range (daemonCount script)).any fun d => threadEnded obs d && !shutdownAsked script d) = false := by
      rw [List.any_eq_false]
      intro d hd
      simp only [List.mem_range] at hd
      cases he : threadEnded obs d with
      | false => simp
      | true => simp [h2 d hd he]
    have e3 : (probes script).all (answered obs) = true := by
      rw [List.all_eq_true]; exact h3
    simp [h1, e2, e3]

/-- a label of 64 bytes whose 63rd and 64th byte are one two-byte character: 62 bytes are
    written; 70 ASCII bytes: 63 are written -/
example : cutLen (List.replicate 62 0x61 ++ [0xC3, 0xA9]) = 62 ∧ cutLen (List.replicate 70 0x61) = 63 ∧
    cutLen [0x61] = 1 ∧ cutLen [] = 0 := by decide

/-- three renames of the name with the counter 4294967294 -/
example : renameN false 3 (Mdns.Props.C08.str "n (4294967294).local.") =
    .ok (Mdns.Props.C08.str "n (4294967295) (3).local.") := by
  repeat rw [Mdns.Props.C08.str_ofList]
  decide +kernel

/-- a history the verdict refuses: the daemon thread ended although nobody asked it to -/
example : monitorCrash [.daemon [], .status 0 9] [.ended 0 true] = some "daemon-thread-ended" := by decide

/-- ... and one it accepts -/
example : monitorCrash [.daemon [], .status 0 9] [.ret 1 "ok", .ev 0 9 ["status", "running"]] = none := by decide

end Mdns.Props.C15
