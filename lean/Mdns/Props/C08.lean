import Mdns.Lemmas.Compare
import Mdns.Lemmas.Names
import Mdns.Driver.MonDuel
/-
  C08  Name conflicts: one winner, consistent new name - the component-level part.

  Models: `Mdns/Model/Compare.lean` (`DnsRecordExt::compare`, `compare_rdata`, `Probe`),
  `Mdns/Model/Names.lean` (`name_change`, `hostname_change`, the `check_*` functions).

  Of the daemon level only the conflict lookup (`Model/Responder.lean`, end of this file) is
  modelled: re-probing and announcing under the new name, `NameChange`, consistency of the
  names in all packets, the one-second retry after a lost tiebreak and two daemons converging
  are not.
-/
namespace Mdns.Props.C08
open Mdns Mdns.Wire Mdns.Compare Mdns.Names

/-- "Class, then type, then RDATA": a smaller class number decides; with equal classes a
    smaller type number decides; with both equal the RDATA comparison decides. -/
theorem compare_order (a b : Rec) :
    (a.cls < b.cls → compareRec a b = .lt) ∧
    (a.cls = b.cls → a.ty < b.ty → compareRec a b = .lt) ∧
    (a.cls = b.cls → a.ty = b.ty → compareRec a b = compareRData a.rdata b.rdata) := by
  refine ⟨?_, ?_, ?_⟩
  · intro h
    simp [compareRec, (cmpNat_lt_iff _ _).mpr h, Ordering.then]
  · intro hc h
    simp [compareRec, (cmpNat_eq_iff _ _).mpr hc, (cmpNat_lt_iff _ _).mpr h, Ordering.then]
  · intro hc ht
    simp [compareRec, (cmpNat_eq_iff _ _).mpr hc, (cmpNat_eq_iff _ _).mpr ht, Ordering.then]

/-- The comparison is antisymmetric: `a` is earlier than `b` exactly if `b` is later than
    `a`, and they compare equal in one direction exactly if they do in the other - for any
    two records that are held by the same Rust struct whenever class and type agree
    (`compatible`; true of all decoded records and all records the daemon builds, see
    `decoded_compatible`). -/
theorem compare_antisymm (a b : Rec) (h : compatible a b) :
    (compareRec a b = .lt ↔ compareRec b a = .gt) ∧
    (compareRec a b = .eq ↔ compareRec b a = .eq) ∧
    (compareRec a b = .gt ↔ compareRec b a = .lt) :=
  opposite_of_swap (compareRec_swap a b h)

/-- Without that hypothesis antisymmetry fails in the code as written: `compare_rdata`
    answers `Greater` when the other record is held by another struct, in both directions.
    A pointer record constructed with type number 1 and an address record (class IN, type 1):
    each is "later" than the other.  (Such a pair cannot come out of the decoder.) -/
theorem compare_antisymm_needs_compatible :
    ∃ a b : Rec, compareRec a b = .gt ∧ compareRec b a = .gt :=
  ⟨{ name := [], ty := 1, cls := 1, flush := false, ttl := 120, rdata := .ptr [0x61], start := 0, stop := 0 },
   { name := [], ty := 1, cls := 1, flush := false, ttl := 120, rdata := .a [10, 0, 0, 1], start := 0, stop := 0 },
   by decide, by decide⟩

/-- **"Earlier" is transitive** - for ALL records, no side condition: if `a` is earlier than `b`
    and `b` earlier than `c` then `a` is earlier than `c`.  With antisymmetry and `compare_eq_iff`
    the comparison is a strict total order on (class, type, RDATA), so among any number of
    simultaneous claimants with different data exactly one is latest: three or more probers
    cannot beat each other in a circle. -/
theorem compare_transitive (a b c : Rec) (h1 : compareRec a b = .lt) (h2 : compareRec b c = .lt) :
    compareRec a c = .lt :=
  cmpData_lawful.lt_trans (a := dataOf a) (b := dataOf b) (c := dataOf c) h1 h2

/-- no cycle of three; only the pair that closes the circle has to be `compatible` -/
theorem no_cycle_of_three (a b c : Rec) (hca : compatible c a)
    (h1 : compareRec a b = .lt) (h2 : compareRec b c = .lt) : compareRec c a ≠ .lt := by
  have h3 := compare_transitive a b c h1 h2
  have := ((compare_antisymm c a hca).2.2).mpr h3
  rw [this]; decide

example :
    let r (ip : BList) : Rec := { name := [], ty := 1, cls := 1, flush := true, ttl := 120, rdata := .a ip, start := 0, stop := 0 }
    compareRec (r [10, 0, 0, 1]) (r [10, 0, 0, 2]) = .lt ∧ compareRec (r [10, 0, 0, 2]) (r [10, 0, 1, 0]) = .lt ∧
    compareRec (r [10, 0, 0, 1]) (r [10, 0, 1, 0]) = .lt := by decide

/-- Two records compare equal exactly if class, type and RDATA are identical (owner name,
    TTL and cache-flush bit do not take part). -/
theorem compare_eq_iff (a b : Rec) :
    compareRec a b = .eq ↔ a.cls = b.cls ∧ a.ty = b.ty ∧ a.rdata = b.rdata := by
  rw [compareRec_eq, cmpData_lawful.eq_iff, dataOf, dataOf, Prod.mk.injEq, Prod.mk.injEq]

/-- Any two records that `DnsIncoming::new` returned (from the same or from different
    packets) can be compared antisymmetrically. -/
theorem decoded_compatible (d1 d2 : Pkt) (m1 m2 : Msg) (h1 : decode d1 = .ok m1) (h2 : decode d2 = .ok m2)
    (a b : Rec) (ha : a ∈ m1.answers ++ m1.authorities ++ m1.additionals)
    (hb : b ∈ m2.answers ++ m2.authorities ++ m2.additionals) : compatible a b :=
  wellTyped_compatible a b (decode_wellTyped d1 m1 h1 a ha) (decode_wellTyped d2 m2 h2 b hb)

/-- What `tiebreaking` does to a probe: nothing before the probe has started; after that, if
    its own records are earlier than the other prober's (first differing pair, else fewer
    records) it restarts exactly one second later; otherwise nothing. -/
theorem tiebreaking_spec (p : Probe) (auth : List Rec) (name : BList) (now : Nat) :
    p.tiebreaking auth name now =
      if p.start < now ∧ zipCmp p.records (incomingFor auth name) = .lt then
        { p with start := now + 1000, next := now + 1000 }
      else p := by
  unfold Probe.tiebreaking
  by_cases hs : p.start ≥ now
  · have : ¬ p.start < now := by omega
    simp [hs, this]
  · have : p.start < now := by omega
    simp only [hs, ↓reduceIte, this, true_and]
    cases zipCmp p.records (incomingFor auth name) <;> simp

/-- Opposite verdicts: comparing A's records with B's says "earlier" exactly if comparing
    B's with A's says "later", and "equal" exactly if the other says "equal" - for all
    record lists, in whatever order `insert_record` left records of the same type. -/
theorem tiebreak_opposite (as bs : List Rec) (h : ∀ a ∈ as, ∀ b ∈ bs, compatible a b) :
    (zipCmp as bs = .lt ↔ zipCmp bs as = .gt) ∧
    (zipCmp as bs = .eq ↔ zipCmp bs as = .eq) ∧
    (zipCmp as bs = .gt ↔ zipCmp bs as = .lt) :=
  opposite_of_swap (zipCmp_swap as bs h)

/-- Nobody yields exactly if both probers hold the same data, record by record (class, type,
    RDATA). -/
theorem tiebreak_tie_iff (as bs : List Rec) : zipCmp as bs = .eq ↔ as.map dataOf = bs.map dataOf := by
  rw [zipCmp_eq_lexList]
  exact cmpData_lawful.lexList.eq_iff

/-- "... then number of records": a prober whose records are a proper prefix of the other's
    is the one that yields. -/
theorem tiebreak_length_rule (as : List Rec) (b : Rec) (rest : List Rec) :
    zipCmp as (as ++ b :: rest) = .lt ∧ zipCmp (as ++ b :: rest) as = .gt := by
  constructor
  · simpa only [List.append_nil, zipCmp] using zipCmp_append_left as [] (b :: rest)
  · simpa only [List.append_nil, zipCmp] using zipCmp_append_left as (b :: rest) []

/-- Two probers for the same name, both already probing, each receiving the other's probe
    (all records carry the probed name, so the filter keeps them all): exactly one of them
    restarts one second later and the other is untouched - unless they hold identical data,
    in which case both are untouched. -/
theorem tiebreak_two_probers (pa pb : Probe) (name : BList) (now : Nat)
    (hsa : pa.start < now) (hsb : pb.start < now)
    (hna : ∀ r ∈ pa.records, r.name = name) (hnb : ∀ r ∈ pb.records, r.name = name)
    (hc : ∀ a ∈ pa.records, ∀ b ∈ pb.records, compatible a b) :
    let pa' := pa.tiebreaking pb.records name now
    let pb' := pb.tiebreaking pa.records name now
    (pa' = { pa with start := now + 1000, next := now + 1000 } ∧ pb' = pb ∧
        pa.records.map dataOf ≠ pb.records.map dataOf) ∨
    (pb' = { pb with start := now + 1000, next := now + 1000 } ∧ pa' = pa ∧
        pa.records.map dataOf ≠ pb.records.map dataOf) ∨
    (pa' = pa ∧ pb' = pb ∧ pa.records.map dataOf = pb.records.map dataOf) := by
  simp only [tiebreaking_spec, incomingFor_self _ _ hna, incomingFor_self _ _ hnb, hsa, hsb, true_and]
  have hsw := zipCmp_swap pa.records pb.records hc
  have hte := tiebreak_tie_iff pa.records pb.records
  cases hz : zipCmp pa.records pb.records
  · left
    rw [hz] at hsw hte
    simp only [hsw, Ordering.swap, ↓reduceIte, true_and]
    exact ⟨by simp, fun e => by simpa using hte.mpr e⟩
  · right; right
    rw [hz] at hsw hte
    simp only [hsw, Ordering.swap]
    exact ⟨by simp, by simp, hte.mp rfl⟩
  · right; left
    rw [hz] at hsw hte
    simp only [hsw, Ordering.swap, ↓reduceIte, true_and]
    exact ⟨by simp, fun e => by simpa using hte.mpr e⟩

/-- `insert_record` keeps a probe's records sorted by (class, type) and loses none. -/
theorem insert_record_sorted (p : Probe) (r : Rec) (h : sortedByKey p.records = true) :
    sortedByKey (p.insertRecord r).records = true ∧ (p.insertRecord r).records.Perm (r :: p.records) :=
  ⟨insertSorted_sorted r p.records h, insertSorted_perm r p.records⟩

/-- A probe is finished when it is 750 ms old AND its three queries have been sent (`next_send`
    has moved on to `start_time + 750`, repair of D31) - so a new probe, which has sent nothing,
    is never finished, however late the loop comes; its first query is due at its start; a probe
    query sent at `now` schedules the next one for `now + 250` and moves the start by the
    lateness of this one. -/
theorem probe_times (s now : Nat) :
    (∀ p : Probe, p.expired now = true ↔ p.start + 750 ≤ now ∧ p.start + 750 ≤ p.next) ∧
    (Probe.new s).expired now = false ∧ (Probe.new s).next = s ∧
    ((Probe.new s).updateNextSend now).next = now + 250 ∧
    ((Probe.new s).updateNextSend now).start = s + (now - s) := by
  refine ⟨fun p => by simp [Probe.expired], ?_, rfl, rfl, rfl⟩
  simp [Probe.new, Probe.expired]

/-- the invariant behind "three queries": after `k ≤ 3` queries `next_send = start_time + 250 k`,
    whenever they were sent; a due probe in that state ends exactly when `k = 3` -/
theorem probe_progress (p : Probe) (k now : Nat) (h : p.next = p.start + 250 * k) (hk : k ≤ 3) (hdue : now ≥ p.next) :
    (p.expired now = true ↔ k = 3) ∧
    (p.updateNextSend now).next = (p.updateNextSend now).start + 250 * (k + 1) := by
  constructor
  · simp only [Probe.expired, Bool.and_eq_true, decide_eq_true_eq]
    constructor
    · intro ⟨_, h2⟩; omega
    · intro e; subst e; omega
  · simp only [Probe.updateNextSend]
    omega

/-- `name_change` in full: only the text before the first `.` matters, everything from that
    dot on is kept.  If that text ends in ` (N)` with `N` a `u32` literal (optional `+`,
    decimal digits) below 4294967295 the result has ` (N+1)` there, otherwise ` (2)` is
    appended (also for `N = 4294967295`: repair of D14, `number + 1` used to overflow there).
    It never fails. -/
theorem name_change_spec (s : BList) :
    (∀ base num n, firstPart s = base ++ SP_LPAREN ++ num ++ [RPAREN] → parseU32 num = some n →
      nameChange s = if n = U32_MAX then .ok (firstPart s ++ PAREN2 ++ afterFirst s)
        else .ok (base ++ SP_LPAREN ++ decimal (n + 1) ++ [RPAREN] ++ afterFirst s)) ∧
    ((¬ ∃ base num n, firstPart s = base ++ SP_LPAREN ++ num ++ [RPAREN] ∧ parseU32 num = some n) →
      nameChange s = .ok (firstPart s ++ PAREN2 ++ afterFirst s)) :=
  change_spec (mk := fun base num => base ++ SP_LPAREN ++ num ++ [RPAREN]) nameChange_eq bumpParen_suffix
    bumpParen_cases s

/-- `hostname_change` in full: as `name_change_spec` with `-N` for ` (N)` and `-2` for ` (2)`. -/
theorem hostname_change_spec (s : BList) :
    (∀ base num n, firstPart s = base ++ [HYPHEN] ++ num → parseU32 num = some n →
      hostnameChange s = if n = U32_MAX then .ok (firstPart s ++ HYPHEN2 ++ afterFirst s)
        else .ok (base ++ [HYPHEN] ++ decimal (n + 1) ++ afterFirst s)) ∧
    ((¬ ∃ base num n, firstPart s = base ++ [HYPHEN] ++ num ∧ parseU32 num = some n) →
      hostnameChange s = .ok (firstPart s ++ HYPHEN2 ++ afterFirst s)) :=
  change_spec (mk := fun base num => base ++ [HYPHEN] ++ num) hostnameChange_eq bumpHyphen_suffix
    bumpHyphen_cases s

/-- The renaming functions are total: for every input text they return a name - no error and
    no panic. -/
theorem rename_total (s : BList) :
    (∃ s', nameChange s = .ok s') ∧ (∃ s', hostnameChange s = .ok s') :=
  let ⟨_, hn, _⟩ := nameChange_bumped s
  let ⟨_, hh, _⟩ := hostnameChange_bumped s
  ⟨⟨_, hn⟩, ⟨_, hh⟩⟩

/-- Counting up: renaming `x` (no numeric suffix) gives `x (2)`; renaming `x (n)` - as
    printed by a previous renaming - gives `x (n+1)`; so repeated conflicts give
    `x (2)`, `x (3)`, `x (4)`, ... (up to 4294967295).  `rest` is the part of the name from the
    first `.` on. -/
theorem name_change_counts_up (x rest : BList) (hx : DOT ∉ x) (hr : rest = [] ∨ rest.head? = some DOT) (n : Nat)
    (hn : n < U32_MAX) :
    nameChange (x ++ SP_LPAREN ++ decimal n ++ [RPAREN] ++ rest) =
      .ok (x ++ SP_LPAREN ++ decimal (n + 1) ++ [RPAREN] ++ rest) :=
  change_counts_up (mk := fun base num => base ++ SP_LPAREN ++ num ++ [RPAREN]) nameChange_eq bumpParen_suffix
    (fun _ _ hb hnum => by simpa [SP_LPAREN, RPAREN, DOT] using ⟨hb, hnum⟩) x rest hx hr n hn

/-- host names count `h`, `h-2`, `h-3`, ... -/
theorem hostname_change_counts_up (x rest : BList) (hx : DOT ∉ x) (hr : rest = [] ∨ rest.head? = some DOT)
    (n : Nat) (hn : n < U32_MAX) :
    hostnameChange (x ++ [HYPHEN] ++ decimal n ++ rest) = .ok (x ++ [HYPHEN] ++ decimal (n + 1) ++ rest) :=
  change_counts_up (mk := fun base num => base ++ [HYPHEN] ++ num) hostnameChange_eq bumpHyphen_suffix
    (fun _ _ hb hnum => by simpa [HYPHEN, DOT] using ⟨hb, hnum⟩) x rest hx hr n hn

/-- Length bound: renaming keeps everything from the first `.` on and makes the text before
    it at most 4 bytes (instance) / 2 bytes (host) longer.  So a first label of at most 59 / 61
    bytes stays within the 63 bytes a label may have; a longer one may not (`D15_renamed_label_over_63`). -/
theorem rename_label_bound (s s' : BList) :
    (nameChange s = .ok s' → afterFirst s' = afterFirst s ∧ (firstPart s').length ≤ (firstPart s).length + 4) ∧
    (hostnameChange s = .ok s' → afterFirst s' = afterFirst s ∧ (firstPart s').length ≤ (firstPart s).length + 2) := by
  obtain ⟨_, en, hn⟩ := nameChange_bumped s
  obtain ⟨_, eh, hh⟩ := hostnameChange_bumped s
  exact ⟨fun h => hn.bound (Res.ok.inj (h.symm.trans en)) (by decide) (by decide),
    fun h => hh.bound (Res.ok.inj (h.symm.trans eh)) (by decide) (by decide)⟩

/-- The clause "on a conflict it picks a new name ... and the new name is still encodable" at
    full strength: for every encodable name the renaming functions return, the new name is
    encodable, and on the wire only the first label has changed. -/
def rename_keeps_name_encodable_full : Prop :=
  ∀ s : BList, encodable s = true →
    (∃ s', nameChange s = .ok s' ∧ encodable s' = true ∧ (wireLabels s').drop 1 = (wireLabels s).drop 1) ∧
    (∃ s', hostnameChange s = .ok s' ∧ encodable s' = true ∧ (wireLabels s').drop 1 = (wireLabels s).drop 1)

/-- D13: `name_change("a\.b._x._udp.local.")` = `a\ (2).b._x._udp.local.`: the suffix lands
    inside the escaped label `a.b`, which becomes the two labels `a\ (2)` and `b`. -/
theorem D13_suffix_inside_escaped_label :
    nameChange (str "a\\.b._x._udp.local.") = .ok (str "a\\ (2).b._x._udp.local.") ∧
    wireLabels (str "a\\.b._x._udp.local.") = [str "a.b", str "_x", str "_udp", str "local"] ∧
    wireLabels (str "a\\ (2).b._x._udp.local.") = [str "a\\ (2)", str "b", str "_x", str "_udp", str "local"] := by
  repeat rw [str_ofList]
  decide +kernel

/-- D14 (repaired): at a suffix of 4294967295, where `number + 1` used to overflow (a panic
    with overflow checks, ` (0)` without), a fresh suffix is appended. -/
theorem D14_rename_at_u32_max :
    nameChange (str "foo (4294967295)._x._udp.local.") = .ok (str "foo (4294967295) (2)._x._udp.local.") ∧
    hostnameChange (str "foo-4294967295.local.") = .ok (str "foo-4294967295-2.local.") := by
  repeat rw [str_ofList]
  decide +kernel

/-- D15: a first label of 63 bytes becomes one of 67 bytes, which `write_utf8` refuses
    (`assert!(s.len() < 64)`). -/
theorem D15_renamed_label_over_63 :
    encodable (List.replicate 63 0x4C ++ str "._x._udp.local.") = true ∧
    nameChange (List.replicate 63 0x4C ++ str "._x._udp.local.") =
      .ok (List.replicate 63 0x4C ++ str " (2)._x._udp.local.") ∧
    encodable (List.replicate 63 0x4C ++ str " (2)._x._udp.local.") = false := by
  repeat rw [str_ofList]
  decide +kernel

theorem rename_keeps_name_encodable_full_is_false : ¬ rename_keeps_name_encodable_full := by
  intro h
  have := (h _ D15_renamed_label_over_63.1).1
  obtain ⟨s', h1, h2, _⟩ := this
  rw [D15_renamed_label_over_63.2.1] at h1
  cases h1
  rw [D15_renamed_label_over_63.2.2] at h2
  cases h2

/-- What does hold of the encodability clause (the part of `rename_keeps_name_encodable_full`
    that is true of the code): if the text before the first `.` is not empty and contains no
    backslash (no escapes in the first label), then on the wire only the first label changes;
    and if moreover that label has at most 59 bytes (host: 61) and the name at most 251 bytes
    (host: 253), an encodable name stays encodable.  Missing for the full statement: escaped
    first labels (D13), first labels of 60..63 bytes (D15), names of 252..255 bytes (D15b). -/
theorem rename_keeps_name_encodable_partial (s s' : BList) (host : Bool)
    (hne : firstPart s ≠ []) (hb : BACKSLASH ∉ firstPart s)
    (h : (if host then hostnameChange s else nameChange s) = .ok s') :
    wireLabels s = firstPart s :: tailLabels (afterFirst s) ∧
    wireLabels s' = firstPart s' :: tailLabels (afterFirst s) ∧
    (encodable s = true → (firstPart s).length + (if host then 2 else 4) ≤ 63 →
      s.length + (if host then 2 else 4) ≤ 255 → encodable s' = true) := by
  have hs : wireLabels s = firstPart s :: tailLabels (afterFirst s) := by
    have := wireLabels_plain (firstPart s) (afterFirst s) (firstPart_no_dot s) hb hne (afterFirst_head s)
    rwa [firstPart_append_afterFirst] at this
  -- both functions leave `f ++ afterFirst s`, with `f` the first part with its counter bumped
  obtain ⟨pre, post, f, rfl, hf, ⟨hd₁, hd₂, hb₁, hb₂⟩, hlen⟩ : ∃ pre post f, s' = f ++ afterFirst s ∧
      Bumped pre post (firstPart s) f ∧ (DOT ∉ pre ∧ DOT ∉ post ∧ BACKSLASH ∉ pre ∧ BACKSLASH ∉ post) ∧
      pre.length + 1 + post.length = if host then 2 else 4 := by
    cases host
    · obtain ⟨f, e, hf⟩ := nameChange_bumped s
      exact ⟨_, _, f, by simpa [e] using h.symm, hf, by decide, rfl⟩
    · obtain ⟨f, e, hf⟩ := hostnameChange_bumped s
      exact ⟨_, _, f, by simpa [e] using h.symm, hf, by decide, rfl⟩
  obtain ⟨e1, _⟩ := hf.firstPart_afterFirst hd₁ hd₂
  have hs' : wireLabels (f ++ afterFirst s) = f :: tailLabels (afterFirst s) :=
    wireLabels_plain f _ (hf.not_mem (firstPart_no_dot s) hd₁ hd₂ rfl) (hf.not_mem hb hb₁ hb₂ rfl) hf.ne_nil
      (afterFirst_head s)
  rw [e1]
  refine ⟨hs, hs', ?_⟩
  intro henc h63 h255
  unfold encodable at henc ⊢
  rw [hs] at henc
  rw [hs']
  simp only [List.all_cons, Bool.and_eq_true, decide_eq_true_eq, List.length_append] at henc ⊢
  have := hf.length_le
  have l2 : s.length = (firstPart s).length + (afterFirst s).length := by
    rw [← List.length_append, firstPart_append_afterFirst]
  exact ⟨⟨by omega, henc.1.2⟩, by omega⟩

/-- the hypotheses of `rename_keeps_name_encodable_partial` are satisfiable -/
example : firstPart (str "My Printer._ipp._tcp.local.") ≠ [] ∧ BACKSLASH ∉ firstPart (str "My Printer._ipp._tcp.local.") ∧
    nameChange (str "My Printer._ipp._tcp.local.") = .ok (str "My Printer (2)._ipp._tcp.local.") ∧
    encodable (str "My Printer._ipp._tcp.local.") = true ∧
    wireLabels (str "My Printer (2)._ipp._tcp.local.") = [str "My Printer (2)", str "_ipp", str "_tcp", str "local"] := by
  repeat rw [str_ofList]
  decide +kernel

/-- two well-typed SRV records differing in the port: opposite answers -/
example :
    let a : Rec := { name := str "h.local.", ty := 33, cls := 1, flush := true, ttl := 120,
                     rdata := .srv 0 0 80 (str "h.local."), start := 0, stop := 0 }
    let b : Rec := { a with rdata := .srv 0 0 81 (str "h.local.") }
    wellTyped a = true ∧ wellTyped b = true ∧ compareRec a b = .lt ∧ compareRec b a = .gt := by
  repeat rw [str_ofList]
  decide +kernel

/-- SRV: the port is compared as a number (255 before 256), then the host string -/
example : compareRData (.srv 0 0 255 [0x7A]) (.srv 0 0 256 [0x61]) = .lt ∧
    compareRData (.srv 0 0 80 (str "h-2.local.")) (.srv 0 0 80 (str "h.local.")) = .lt := by
  repeat rw [str_ofList]
  decide +kernel

/-- every IPv4 address is earlier than every IPv6 address -/
example : compareRData (.a [255, 255, 255, 255]) (.aaaa (List.replicate 16 0)) = .lt := by decide

/-- a tiebreak with a loser: same A record, different TXT; the one with the earlier TXT
    restarts at `now + 1000`, the other is untouched -/
example :
    let a1 : Rec := { name := str "h.local.", ty := 1, cls := 1, flush := true, ttl := 120,
                      rdata := .a [10, 0, 0, 1], start := 0, stop := 0 }
    let t1 : Rec := { a1 with ty := 16, rdata := .txt [1, 0x61] }
    let t2 : Rec := { a1 with ty := 16, rdata := .txt [1, 0x62] }
    let pa : Probe := { records := [a1, t1], start := 1000, next := 1000 }
    let pb : Probe := { records := [a1, t2], start := 1000, next := 1000 }
    pa.tiebreaking pb.records (str "h.local.") 1100 = { pa with start := 2100, next := 2100 } ∧
    pb.tiebreaking pa.records (str "h.local.") 1100 = pb := by
  repeat rw [str_ofList]
  decide +kernel

/-- the renaming examples of the statement: instance 'x' -> 'x (2)' -> 'x (3)', host 'h' ->
    'h-2' -> 'h-3'; '(9)' -> '(10)'; a literal with '+' or leading zeros is a number too -/
example : nameChange (str "x._x._udp.local.") = .ok (str "x (2)._x._udp.local.") ∧
    nameChange (str "x (2)._x._udp.local.") = .ok (str "x (3)._x._udp.local.") ∧
    nameChange (str "x (9)") = .ok (str "x (10)") ∧
    nameChange (str "x (+07).local.") = .ok (str "x (8).local.") ∧
    nameChange (str "x (2) .local.") = .ok (str "x (2)  (2).local.") ∧
    hostnameChange (str "h.local.") = .ok (str "h-2.local.") ∧
    hostnameChange (str "h-2.local.") = .ok (str "h-3.local.") ∧
    hostnameChange (str "my-host.local.") = .ok (str "my-host-2.local.") ∧
    hostnameChange (str "h-4294967294.local.") = .ok (str "h-4294967295.local.") := by
  repeat rw [str_ofList]
  decide +kernel

/-- the hypotheses of the first clause of `name_change_spec` (a counter is present) are satisfiable -/
example : firstPart (str "x (41).local.") = str "x" ++ SP_LPAREN ++ str "41" ++ [RPAREN] ∧
    parseU32 (str "41") = some 41 ∧ afterFirst (str "x (41).local.") = str ".local." := by
  repeat rw [str_ofList]
  decide +kernel

/-- `MonDuel.renamesOf` - the set of names against which the duel monitor checks the loser of
    a conflict - is the statement's sequence: for a name `x.rest` whose first label carries no
    numeric suffix, exactly `x (2)`, `x (3)`, `x (4)`, `x (5)` (with the rest unchanged). -/
theorem duel_allowed_names (x rest : BList) (hx : DOT ∉ x) (hr : rest = [] ∨ rest.head? = some DOT)
    (hno : ¬ ∃ base num n, x = base ++ SP_LPAREN ++ num ++ [RPAREN] ∧ parseU32 num = some n) :
    Mdns.Driver.MonDuel.renamesOf false (x ++ rest) =
      [x ++ SP_LPAREN ++ decimal 2 ++ [RPAREN] ++ rest, x ++ SP_LPAREN ++ decimal 3 ++ [RPAREN] ++ rest,
       x ++ SP_LPAREN ++ decimal 4 ++ [RPAREN] ++ rest, x ++ SP_LPAREN ++ decimal 5 ++ [RPAREN] ++ rest] := by
  obtain ⟨h1, h2⟩ := firstPart_of_no_dot x rest hx hr
  have s1 : nameChange (x ++ rest) = .ok (x ++ SP_LPAREN ++ decimal 2 ++ [RPAREN] ++ rest) := by
    have := (name_change_spec (x ++ rest)).2 (by rw [h1]; exact hno)
    rw [this, h1, h2]
    have : PAREN2 = SP_LPAREN ++ decimal 2 ++ [RPAREN] := by decide
    rw [this]
    simp [List.append_assoc]
  have s2 := name_change_counts_up x rest hx hr 2 (by decide)
  have s3 := name_change_counts_up x rest hx hr 3 (by decide)
  have s4 := name_change_counts_up x rest hx hr 4 (by decide)
  unfold Mdns.Driver.MonDuel.renamesOf
  simp only [Bool.false_eq_true, ↓reduceIte, s1, s2, s3, s4]

example : Mdns.Driver.MonDuel.renamesOf false (str "dup._http._tcp.local.") =
    [str "dup (2)._http._tcp.local.", str "dup (3)._http._tcp.local.", str "dup (4)._http._tcp.local.",
     str "dup (5)._http._tcp.local."] := by
  repeat rw [str_ofList]
  decide +kernel

/-! ## Conflict detection ignores letter case (daemon level, repair of D38)

  Model: `Mdns/Model/Responder.lean` (`Registry.probeKey`, `conflictOnAnswer`, `tiebreak`), compared
  with the real daemon on every run of `./check C07` / `C06` (histories with conflicting responses
  and competing probes that spell the names in other letter cases). -/

/-- our probe of a name is found whatever the letter case of the name asked for -/
theorem probe_lookup_ignores_case (reg : Mdns.Responder.Registry) (n1 n2 : BList) (h : lower n1 = lower n2) :
    reg.probeKey n1 = reg.probeKey n2 := by
  unfold Mdns.Responder.Registry.probeKey
  rw [h]

/-- ... and what is found is a probe of ours whose name is the name asked for, up to letter case -/
theorem probe_lookup_ours (reg : Mdns.Responder.Registry) (n k : BList) (h : reg.probeKey n = some k) :
    lower k = lower n ∧ ∃ p, (k, p) ∈ reg.probing := by
  unfold Mdns.Responder.Registry.probeKey at h
  cases hf : reg.probing.find? (fun e => lower e.1 == lower n) with
  | none => rw [hf] at h; cases h
  | some e =>
    rw [hf] at h
    simp only [Option.map_some, Option.some.injEq] at h
    subst h
    exact ⟨by simpa using List.find?_some hf, e.2, List.mem_of_find?_eq_some hf⟩

/-- CONFLICT DETECTION IGNORES LETTER CASE: what `conflict_handler` does with an answer of a
    response depends on the answer's owner name only up to letter case - the same conflict is
    found, the same records are renamed, and the new names are made from OUR spelling of the
    name.  Before the repair the probe was looked up by the exact spelling on the wire: two hosts
    claiming `duphost.local.` and `DUPHOST.local.` never saw a conflict. -/
theorem conflict_detection_ignores_case (now jitter : Nat) (acc : Mdns.Responder.Registry × List Nat) (a : Wire.Rec)
    (n1 n2 : BList) (h : lower n1 = lower n2) :
    Mdns.Responder.conflictOnAnswer now jitter acc { a with name := n1 } =
      Mdns.Responder.conflictOnAnswer now jitter acc { a with name := n2 } := by
  have e := probe_lookup_ignores_case acc.1 n1 n2 h
  unfold Mdns.Responder.conflictOnAnswer
  simp only [e]
  rfl

/-- our probe of `DUPHOST.local.` with the address 192.168.1.20 -/
def dupReg : Mdns.Responder.Registry :=
  { probing := [(str "DUPHOST.local.",
      { records := [{ name := str "DUPHOST.local.", ty := 1, flush := true, ttl := 120, rdata := .a [192, 168, 1, 20] }],
        waiting := [str "web._http._tcp.local."], start := 1000, next := 1250 })] }

/-- REGRESSION (D38, witness corpus/C08/d38_host_conflict_case_sensitive.ops): a response with
    `duphost.local. A 192.168.1.10` conflicts with our probe of `DUPHOST.local.`: our record moves
    to a probe of `DUPHOST-2.local.` (our spelling) and the rename is remembered; the same
    address as ours, in whatever case, is no conflict -/
example :
    ((Mdns.Responder.conflictOnAnswer 2000 7 (dupReg, [])
        { name := str "duphost.local.", ty := 1, cls := 1, flush := true, ttl := 120, rdata := .a [192, 168, 1, 10],
          start := 0, stop := 0 }).1.probing.map (·.1),
     (Mdns.Responder.conflictOnAnswer 2000 7 (dupReg, [])
        { name := str "duphost.local.", ty := 1, cls := 1, flush := true, ttl := 120, rdata := .a [192, 168, 1, 10],
          start := 0, stop := 0 }).1.nameChanges) =
      ([str "DUPHOST.local.", str "DUPHOST-2.local."], [(str "DUPHOST.local.", str "DUPHOST-2.local.")]) ∧
    Mdns.Responder.conflictOnAnswer 2000 7 (dupReg, [])
        { name := str "duphost.LOCAL.", ty := 1, cls := 1, flush := true, ttl := 120, rdata := .a [192, 168, 1, 20],
          start := 0, stop := 0 } = (dupReg, []) := by
  rw [dupReg]
  repeat rw [str_ofList]
  decide +kernel

end Mdns.Props.C08
