import Mdns.Props.C03
/-
  C05  Departed services are reported removed, on time and only when true.

  Model: `Mdns/Model/Client.lean` (exact on scripted-responder histories, compared with the
  real daemon on every run).  `ServiceRemoved` has exactly two sources in the loop:
  `evict_expired_services` (+ `notify_service_removal`) and `resolve_updated_instances`.
-/
namespace Mdns.Props.C05
open Mdns Mdns.Rec Mdns.Cache Mdns.Client

/-- One iteration: every `ServiceRemoved(ty, inst)` emitted at `now` has
    one of the two reasons the code has, on a cache justified by the delivered records:
    * `EvictWhy`: in the cache before eviction a PTR entry of `ty` points to `inst`, and that
      entry has `expires ≤ now`, or the instance has SRV entries and all have `expires ≤ now`;
    * `UnresolveWhy`: `inst` had been reported resolved, a usable PTR of `ty` still points to it,
      and it cannot be resolved from the cache any more (see `invalid_why`). -/
theorem removed_sound (hist : List Delivery) (s : State) (now : Nat) (pkts : List Packet) (cmds : List Command)
    (h : CacheProv hist s.cache) :
    ∀ ch ty inst, Out.event ch (.removed ty inst) ∈ (iter s now pkts cmds).2 →
      RemovedWhy (CacheProv (hist ++ deliveries s now pkts)) now ty inst :=
  (ok_iter hist s now pkts cmds h).2.2

/-- over whole histories, from the start of the daemon -/
theorem removed_sound_run : ∀ (h : List (Nat × List Packet × List Command)) (hist0 : List Delivery) (s : State),
    CacheProv hist0 s.cache →
    ∀ now ch ty inst, (now, Out.event ch (.removed ty inst)) ∈ (run s h).2 →
      RemovedWhy (CacheProv (hist0 ++ C03.histOf s h)) now ty inst
  | [], _, _, _ => fun _ _ _ _ hm => by cases hm
  | (now, pkts, cmds) :: rest, hist0, s, h0 => by
    have h1 := ok_iter hist0 s now pkts cmds h0
    have h2 := removed_sound_run rest (hist0 ++ deliveries s now pkts) (iter s now pkts cmds).1 h1.1
    intro now' ch ty inst hm
    simp only [C03.histOf, run] at hm ⊢
    rw [← List.append_assoc]
    rcases List.mem_append.mp hm with hm | hm
    · obtain ⟨o, ho, he⟩ := List.mem_map.mp hm
      cases he
      exact (h1.2.2 ch ty inst ho).mono fun c hc => hc.mono fun d hd => List.mem_append_left _ hd
    · exact h2 now' ch ty inst hm

/-- what "cannot be resolved any more" means: no usable SRV (or one with an empty target),
    or no usable address under the host of the first usable SRV -/
theorem invalid_why (c : Cache) (now : Nat) (ty inst : BList) (h : (resolveFromCache c now ty inst).valid = false) :
    ty = [] ∨ inst = [] ∨ (srvHostPort (liveSrv c now inst)).1 = [] ∨
      liveAddrs c now (srvHostPort (liveSrv c now inst)).1 = [] := by
  simp only [Resolved.valid, resolveFromCache, Bool.not_eq_false', Bool.or_eq_true, List.isEmpty_iff] at h
  rcases h with ((h | h) | h) | h
  · exact Or.inl h
  · exact Or.inr (Or.inl h)
  · exact Or.inr (Or.inr (Or.inl h))
  · exact Or.inr (Or.inr (Or.inr h))

/-- **Never while live (eviction).**  If every PTR entry of `ty` that points to `inst` is
    unexpired and the instance has an unexpired SRV entry, `evict_expired_services` does not
    report it. -/
theorem not_evicted_while_live (c : Cache) (now : Nat) (ty inst : BList)
    (hptr : ∀ es, (ty, es) ∈ c.ptr → ∀ e ∈ es, aliasOf e = some inst → now < e.record.expires)
    (hsrv : ∀ l, c.srv.get inst = some l → ∃ x ∈ l, now < x.record.expires) : ¬ EvictWhy c now ty inst := by
  rintro ⟨es, hes, e, he, ha, h | ⟨l, hl, hall⟩⟩
  · have := hptr es hes e he ha
    omega
  · obtain ⟨x, hx, hlt⟩ := hsrv l hl
    have := hall x hx
    omega

/-- **Never while live (resolution).**  If the first usable SRV of the instance has a
    non-empty target with a usable address, `resolve_updated_instances` does not report it. -/
theorem not_unresolved_while_live (s : State) (now : Nat) (ty inst : BList) (hty : ty ≠ []) (hinst : inst ≠ [])
    (hhost : (srvHostPort (liveSrv s.cache now inst)).1 ≠ [])
    (haddr : liveAddrs s.cache now (srvHostPort (liveSrv s.cache now inst)).1 ≠ []) : ¬ UnresolveWhy s now ty inst := by
  rintro ⟨_, _, hv⟩
  rcases invalid_why s.cache now ty inst hv with h | h | h | h
  · exact hty h
  · exact hinst h
  · exact hhost h
  · exact haddr h

/-! ### on time: the goodbye / expiry step contract -/

/-- a goodbye (TTL 0, decoded as 1) delivered at `t` for a cached copy sets its expiry to
    exactly `t + 1000` (`reset_ttl`), whatever its TTL was -/
theorem goodbye_expiry (e : Entry) (ifName : BList) (ifIdx t : Nat) (w : Wire.Rec) (hg : w.ttl = 1) :
    (e.record.resetTtl (ofWire ifName ifIdx t w)).expires = t + 1000 := by
  simp [Record.resetTtl, ofWire, Record.new, expTime, hg]

/-- **completeness of the eviction report for PTR expiry**: an expired PTR entry of `ty`
    pointing to `inst` is reported, whatever else is in the cache -/
theorem evictReport_complete_ptr (now : Nat) (srv : Table) : ∀ (ptr : Table) (gone : List BList) (ty : BList)
    (es : List Entry) (e : Entry) (inst : BList), (ty, es) ∈ ptr → e ∈ es → aliasOf e = some inst →
    e.record.expires ≤ now → (ty, inst) ∈ evictReport now srv ptr gone
  | [], _, _, _, _, _, h, _, _, _ => by cases h
  | p :: rest, gone, ty, es, e, inst, h, he, ha, hx => by
    unfold evictReport
    simp only [List.mem_append]
    rcases List.mem_cons.mp h with h | h
    · left; right
      subst h
      simp only [List.mem_filterMap, List.mem_filter]
      exact ⟨e, ⟨he, by simpa using (not_live_iff now e).mpr hx⟩, by simp [ha]⟩
    · right
      exact evictReport_complete_ptr now srv rest _ ty es e inst h he ha hx

theorem mem_notifyRemoval_of (q : List (BList × Nat)) (rep : List (BList × BList)) (ty inst : BList) (ch : Nat)
    (hq : (ty, ch) ∈ q) (hr : (ty, inst) ∈ rep) : Out.event ch (.removed ty inst) ∈ notifyRemoval q rep := by
  simp only [notifyRemoval, List.mem_flatMap, List.mem_map, List.mem_eraseDups, List.mem_filter]
  exact ⟨(ty, ch), hq, inst, ⟨(ty, inst), ⟨hr, by simp⟩, rfl⟩, rfl⟩

/-- **Removal on time (step contract).**  In the eviction step of an iteration at `now`: if
    `ty` is browsed on channel `ch` and a PTR entry `ty → inst` has `expires ≤ now` - one
    second after a goodbye (`goodbye_expiry`), or at the end of its TTL - then
    `ServiceRemoved(ty, inst)` is sent on `ch` in this very step. -/
theorem removed_on_time (s : State) (now : Nat) (ty inst : BList) (ch : Nat) (es : List Entry) (e : Entry)
    (hq : (ty, ch) ∈ s.queriers) (hes : (ty, es) ∈ s.cache.ptr) (he : e ∈ es) (ha : aliasOf e = some inst)
    (hx : e.record.expires ≤ now) :
    Out.event ch (.removed ty inst) ∈ (evictServicesPhase s now).2 :=
  mem_notifyRemoval_of _ _ ty inst ch hq (evictReport_complete_ptr now s.cache.srv s.cache.ptr [] ty es e inst hes he ha hx)

/-- ... **and not before**: while every PTR entry `ty → inst` is unexpired and an SRV entry of
    the instance is unexpired, the eviction step sends no `ServiceRemoved(ty, inst)` -/
theorem not_removed_before (s : State) (now : Nat) (ty inst : BList) (ch : Nat)
    (hptr : ∀ es, (ty, es) ∈ s.cache.ptr → ∀ e ∈ es, aliasOf e = some inst → now < e.record.expires)
    (hsrv : ∀ l, s.cache.srv.get inst = some l → ∃ x ∈ l, now < x.record.expires) :
    Out.event ch (.removed ty inst) ∉ (evictServicesPhase s now).2 := by
  intro hm
  have := (mem_notifyRemoval _ _ ch ty inst hm).1
  exact not_evicted_while_live s.cache now ty inst hptr hsrv (evictReport_sound now _ _ [] ty inst this)

/-- the deadline of a verify request: `service_verify_queries(inst, t)` leaves no SRV entry of
    the instance with an expiry later than `t`; if nothing refreshes them, all of them have
    expired at `t` and the instance is reported by the eviction step (`EvictWhy`, second case) -/
theorem verify_deadline (t : Nat) (e : Entry) : (soonerEntry t e).record.expires ≤ t := by
  unfold soonerEntry Record.setExpireSooner
  split
  · simp [Record.setExpire]
  · simp only []
    omega

/-- C05, last clause, at full strength on the model: run any history `pre`, then an iteration
    `last` that emits `ServiceRemoved(ty, inst)`; in the iterations after it that receive no
    datagram and no command (at any times `post`) no `ServiceResolved` for `inst` is emitted. -/
def removed_quiet_full : Prop :=
  ∀ (t0 : Nat) (intfs : List Intf) (pre : List (Nat × List Packet × List Command))
    (last : Nat × List Packet × List Command) (post : List Nat) (ch ch' t2 : Nat) (ty inst : BList) (r : Resolved),
    Out.event ch (.removed ty inst) ∈ (iter (run (init t0 intfs) pre).1 last.1 last.2.1 last.2.2).2 →
    r.fullname = inst →
    (t2, Out.event ch' (.resolved r)) ∉
      (run (iter (run (init t0 intfs) pre).1 last.1 last.2.1 last.2.2).1 (post.map fun t => (t, [], []))).2

/-- The part of the clause that holds (the full clause is refuted below, `removed_quiet_full_false`): a
    `ServiceResolved` of `resolve_updated_instances` needs a USABLE
    PTR entry of its type pointing to the instance in the cache of that moment.  So after a
    removal caused by the expiry (goodbye or TTL) of the PTR, nothing is resolved for the
    instance until a PTR for it is stored again.  Missing for the full clause: removals caused
    by an expired SRV / address while the PTR lives on (with several SRV records of one
    instance the first usable one can change by expiry alone). -/
theorem removed_quiet_partial (s : State) (now : Nat) (u : List BList) (ch : Nat) (r : Resolved)
    (h : Out.event ch (.resolved r) ∈ (resolveUpdated s now u).2) :
    ∃ es, (r.ty, es) ∈ s.cache.ptr ∧ ∃ e ∈ es, aliasOf e = some r.fullname ∧ usable now e = true := by
  unfold resolveUpdated at h
  split at h
  · cases h
  · simp only [List.mem_append, List.mem_map, List.mem_filter] at h
    rcases h with ⟨v, ⟨hv, _⟩, he⟩ | h
    · cases he
      exact mem_visits s now u v hv
    · exact absurd h (noResolved_notifyRemoval _ _ ch r)

/-! ### `removed_quiet_full` does not hold: a second SRV record takes over -/

def hostA : BList := [0x41, 0x2e]              -- "A."
def hostB : BList := [0x42, 0x2e]              -- "B."

/-- one announcement of the instance with TWO SRV records (shared, no cache-flush bit): target
    "B." port 81 (TTL 120) and target "A." port 80 (TTL 10, stored in front); address of "A." with
    TTL 5; two addresses of "B." with TTL 120 and 20 -/
def twoSrvAnnounce : Packet :=
  { ifIdx := 2, v4 := true,
    msg := { id := 0, flags := 0x8400, questions := [],
             answers := [C03.wrec C03.ty 12 120 (.ptr C03.inst)],
             authorities := [],
             additionals := [C03.wrec C03.inst 33 120 (.srv 0 0 81 hostB), C03.wrec C03.inst 33 10 (.srv 0 0 80 hostA),
                             C03.wrec hostA 1 5 (.a [10, 0, 0, 1]), C03.wrec hostB 1 120 (.a [10, 0, 0, 2]),
                             C03.wrec hostB 1 20 (.a [10, 0, 0, 3])] } }

/-- resolved with "A." at 1500; the address of "A." runs out at 6500: `resolve_service_from_cache`
    looks at the FIRST usable SRV only ("A.", no address left) and the instance is reported
    removed although the SRV to "B." and an address of "B." are live; at 21500 - no datagram, no
    command since - the SRV to "A." has run out and the expiry of an address of "B." re-resolves
    the instance: `ServiceResolved` with "B." port 81 -/
theorem removed_quiet_witness :
    ((run (init 1000 [C03.eth0])
        [(1000, [], [.browse C03.ty 1 false]), (1500, [twoSrvAnnounce], []), (6500, [], []), (21500, [], [])]).2.filterMap
        fun o => (match o.2 with
          | .event 1 (.resolved r) => if r.fullname == C03.inst then some (o.1, 1, r.port) else none
          | .event 1 (.removed _ i) => if i == C03.inst then some (o.1, 2, 0) else none
          | _ => none : Option (Nat × Nat × Nat))) =
      [(1500, 1, 80), (6500, 2, 0), (21500, 1, 81)] := by decide +kernel

/-- **`removed_quiet_full` is false of the model** (hence, by the correspondence, of the code; the
    same history reproduces on the real daemon: `corpus/C05/d43_two_srv_removed_then_resolved.ops`).
    The removal itself is also one "while the instance still has a live PTR, a live SRV and a live
    address" - of the second SRV record, which `resolve_service_from_cache` does not look at
    (`not_unresolved_while_live` speaks of the first usable SRV). -/
theorem removed_quiet_full_false : ¬ removed_quiet_full := fun h =>
  h 1000 [C03.eth0] [(1000, [], [.browse C03.ty 1 false]), (1500, [twoSrvAnnounce], [])] (6500, [], []) [21500] 1 1 21500
    C03.ty C03.inst
    { ty := C03.ty, sub := none, fullname := C03.inst, host := hostB, port := 81, addrs := [([10, 0, 0, 2], [0x65], 2)],
      txt := [] }
    (by decide +kernel) rfl (by decide +kernel)

open C03 in
/-- PTR goodbye at 3000: `ServiceRemoved` at 4000, not at 3000 -/
example :
    ((run (init 1000 [eth0]) [(1000, [], [.browse ty 1 false]), (1500, [announce], []),
        (3000, [{ announce with msg := { announce.msg with answers := [wrec ty 12 1 (.ptr inst)], additionals := [] } }], []),
        (3999, [], []), (4000, [], [])]).2.filter
        fun o => match o.2 with | .event _ (.removed ..) => true | _ => false) =
      [(4000, .event 1 (.removed ty inst))] := by decide +kernel

end Mdns.Props.C05
