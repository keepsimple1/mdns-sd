import Mdns.Lemmas.Responder
import Mdns.Lemmas.ResponderQuery
import Mdns.Lemmas.ResponderSched
import Mdns.Lemmas.ResponderAnnounce
import Mdns.Lemmas.ResponderLifecycle
/-
  C07  A name is probed three times before it is announced, then announced twice.

  Model: `Mdns/Model/Responder.lean` (one loop iteration of `Zeroconf::run`, responder side),
  compared with the real daemon thread on every run (`Driver/SimResponder.lean`): every
  packet with its time, interface, family and full content, every monitor event and the
  requested wake-up agree on all generated single-daemon histories.

  Proved: safety for ANY history of iterations without a conflicting response
  (`announced_records_active`, `active_only_after_probe`, `announcement_needs_active`,
  `silent_until_announced`); the schedule of one probe under a timely scheduler, alone
  (`probe_timeline`, `probe_query_content`) and inside the daemon loop in any state
  (`probe_query_in_daemon`, `probe_schedule_in_daemon`); from `register(svc)` in any running
  state to the active record and the two announcements one second apart
  (`registration_starts_probe`, `registration_probe_lifecycle`, `first_announcement`,
  `second_announcement`, `registration_announced_twice`); the exact packet list of the whole
  life cycle for concrete registrations (`probe_lifecycle_partial`; for every service it is
  `probe_lifecycle_full`, not proved).

  Repaired: D31 - `three_probes_whatever_the_scheduler` (a probe sends its three queries, 250 ms
  apart, before it ends, at whatever instants the loop runs);
  D33 - `joining_record_restarts_probe` (a record that joins a running probe starts it over);
  each with a regression example on the witness history.
-/
namespace Mdns.Props.C07
open Mdns Mdns.Responder

/-! ### safety without a timely scheduler -/

/-- In every state reachable from a fresh daemon by ANY sequence of loop iterations - at any
    times, with any queries read, any registrations (of fresh `ServiceInfo`s), unregistrations,
    monitors, re-runs, as long as no response is read (no conflict) - a service that requires
    probing and has status `Announced` for an interface index has, on an interface with that
    index and in some IP family, an in-subnet address and ALL its unique records (SRV, TXT,
    the addresses of that family) in the `active` set of that interface's registry. -/
theorem announced_records_active (now0 : Nat) (intfs : List MyIntf) (inputs : List Input)
    (hplain : ∀ inp ∈ inputs, inp.plain) :
    ∀ e ∈ (run (init now0 intfs) inputs).1.services, e.2.probe = true → ∀ idx, e.2.announcedOn idx = true →
      ∃ i ∈ (run (init now0 intfs) inputs).1.intfs, i.index = idx ∧ ∃ v4, addrsOn e.2 i v4 ≠ [] ∧
        ∀ a ∈ uniqueRecords e.2 i ((run (init now0 intfs) inputs).1.registry idx) v4,
          ((run (init now0 intfs) inputs).1.registry idx).isActive a = true :=
  fun e he => (run_inv inputs _ (init_inv now0 intfs) hplain).sound e he

/-- An announcement (`prepare_announce` returning a packet) for a service that requires probing
    is built only when the service has an in-subnet address of the family and every unique
    record is active; it carries PTR (and subtype PTR), SRV, TXT and the address records as
    answers and nothing else. -/
theorem announcement_needs_active (s : Service) (i : MyIntf) (r : Registry) (v4 : Bool) (p : Packet)
    (h : prepareAnnouncePkt s i r v4 = some p) :
    addrsOn s i v4 ≠ [] ∧ (s.probe = true → ∀ a ∈ uniqueRecords s i r v4, r.isActive a = true) ∧
    p.answers = ptrRecords s (r.resolveName s.fullname) TTL_OTHER ++ uniqueRecords s i r v4 ∧
    p.flags = FLAGS_RESPONSE ∧ p.questions = [] ∧ p.authorities = [] ∧ p.additionals = [] :=
  prepareAnnouncePkt_some h

/-- A probe is finished by `check_probing` only when at least 750 ms have passed since its
    start, its next send is due, and - repair of D31 - its three queries have been sent
    (`next_send` has moved on to the end of the schedule): records reach `active` no earlier. -/
theorem active_only_after_probe (r : Registry) (now : Nat) (n : BList) (h : n ∈ (checkProbing r now).expired) :
    ∃ p, (n, p) ∈ r.probing ∧ now ≥ p.next ∧ now ≥ p.start + 750 ∧ p.next ≥ p.start + 750 :=
  checkProbing_expired h

/-- A query read on an interface where no service is `Announced` (all still probing, or none
    registered) is answered with nothing at all - no packet, no event. -/
theorem silent_until_announced (s : State) (now : Nat) (p : RxPkt) (i : MyIntf)
    (h : ∀ e ∈ s.services, e.2.announcedOn i.index = false) : (handleQuery s now p i).2 = [] :=
  handleQuery_silent s now p i h

/-! ### the schedule of a probe -/

/-- Timely scheduler: iterations happen at exactly `T`, `T+250`, `T+500`, `T+750` (the wake-ups
    the probe asks for) and at any other instants in between (earlier ones, `pre0 … pre3`).
    Then the probe sends at exactly `T`, `T+250`, `T+500` and ends at `T+750`. -/
theorem probe_timeline (p : Probe) (T : Nat) (hs : p.start = T) (hn : p.next = T)
    (pre0 pre1 pre2 pre3 rest : List Nat)
    (h0 : ∀ t ∈ pre0, t < T) (h1 : ∀ t ∈ pre1, t < T + 250) (h2 : ∀ t ∈ pre2, t < T + 500) (h3 : ∀ t ∈ pre3, t < T + 750) :
    p.trace (pre0 ++ T :: (pre1 ++ (T + 250) :: (pre2 ++ (T + 500) :: (pre3 ++ (T + 750) :: rest)))) =
      [(T, .send), (T + 250, .send), (T + 500, .send), (T + 750, .expire)] := by
  obtain ⟨recs, w, st, nx⟩ := p
  simp only at hs hn
  rw [hs, hn]
  -- any instants before the due one, then the due one, before the end: one query
  have phase : ∀ (nx : Nat) (pre tl : List Nat), nx < T + 750 → (∀ t ∈ pre, t < nx) →
      (⟨recs, w, T, nx⟩ : Probe).trace (pre ++ nx :: tl) = (nx, .send) :: (⟨recs, w, T, nx + 250⟩ : Probe).trace tl :=
    fun nx pre tl hk hpre => (Probe.trace_skip _ pre _ hpre).trans (Probe.trace_send ⟨recs, w, T, nx⟩ tl hk)
  rw [phase T pre0 _ (by omega) h0, phase (T + 250) pre1 _ (by omega) h1, phase (T + 500) pre2 _ (by omega) h2,
    Probe.trace_skip _ pre3 _ h3, Probe.trace_expire _ (T + 750) _ (Nat.le_refl _) (Nat.le_refl _)]

/-- What a probe that sends at `now` puts on the wire and asks for: the question `ANY name`,
    all its records in the authority section, a timer 250 ms later, and `next_send` moved there
    (and `start_time` moved by the lateness of this query, repair of D31). -/
theorem probe_query_content (r : Registry) (now : Nat) (n : BList) (p : Probe) (hm : (n, p) ∈ r.probing)
    (ha : p.action now = .send) :
    (n, TYPE_ANY) ∈ (checkProbing r now).questions ∧ (∀ a ∈ p.records, a ∈ (checkProbing r now).authorities) ∧
    (now + 250) ∈ (checkProbing r now).timers ∧
    (n, { p with start := p.start + (now - p.next), next := now + 250 }) ∈ (checkProbing r now).reg.probing :=
  checkProbing_sends hm ha

/-- every question of a probe query is an `ANY` question for a name that is being probed and due -/
theorem probe_query_only_probes (r : Registry) (now : Nat) (n : BList) (t : Nat)
    (h : (n, t) ∈ (checkProbing r now).questions) : t = TYPE_ANY ∧ ∃ p, (n, p) ∈ r.probing ∧ p.action now = .send :=
  checkProbing_question h

/-- After `prepare_announce` every unique record of a service that requires probing is active
    (this daemon already holds it) or sits - itself or a matching record - in the probe of its
    name, and the service is among the probe's waiting services. -/
theorem registration_probes_every_record (s : Service) (i : MyIntf) (r : Registry) (v4 : Bool) (now j : Nat)
    (hp : s.probe = true) (hne : addrsOn s i v4 ≠ []) :
    ∀ a ∈ uniqueRecords s i r v4, Held (prepareAnnounceReg s i r v4 now j) a s.fullname :=
  prepare_registers_all s i r v4 now j hp hne

/-- a probe created for a record starts, and first sends, at the time given (`now + jitter`) -/
theorem new_probe_starts_at_jitter (r : Registry) (a : RR) (n : BList) (t : Nat) (h : alookup a.getName r.probing = none) :
    ∃ p, alookup a.getName (r.probeInsert a n t).probing = some p ∧ p.start = t ∧ p.next = t := by
  obtain ⟨p, hp, hnew, _⟩ := probeInsert_times r a n t
  exact ⟨p, hp, hnew h⟩

/-- Every probe a registration creates - for a name that was not being probed - starts, and
    first sends, at `now + jitter`; a probe that was already running keeps its times, or - it
    had sent a query already and a record of the service joined it - starts over at
    `now + jitter` (repair of D33: the joining record gets its three probe queries). -/
theorem registration_probe_times (s : Service) (i : MyIntf) (r : Registry) (v4 : Bool) (now j : Nat) (n : BList) :
    (alookup n r.probing = none → ∀ p, alookup n (prepareAnnounceReg s i r v4 now j).probing = some p →
      p.start = now + j ∧ p.next = now + j) ∧
    (∀ q, alookup n r.probing = some q → ∃ p, alookup n (prepareAnnounceReg s i r v4 now j).probing = some p ∧
      ((p.start = q.start ∧ p.next = q.next) ∨ (p.start = now + j ∧ p.next = now + j ∧ q.start < q.next))) :=
  prepareAnnounceReg_times s i r v4 now j n

/-- The end of a probe (`handle_expired_probes`, no rename pending): the probe is removed, each
    of its records (filed under its name) is active from then on, and - if it had records -
    every service that waited for it is woken to be announced. -/
theorem probe_end_activates_records (intfName : BList) (acc : Registry × List Event × List BList) (name : BList) (p : Probe)
    (hl : alookup name acc.1.probing = some p) (hn : NoRen acc.1) :
    (∀ a ∈ p.records, a.getName = name → (expireProbe intfName acc name).1.isActive a = true) ∧
    alookup name (expireProbe intfName acc name).1.probing = none ∧
    (p.records ≠ [] → ∀ w ∈ p.waiting, w ∈ (expireProbe intfName acc name).2.2) :=
  expireProbe_activates intfName acc name p hl hn

/-! ### the schedule of a probe INSIDE the daemon loop -/

/-- One idle loop iteration (`iter` without datagram and command) of a daemon in ANY state in
    which it runs, interface `i` is there once, the probe of `n` on `i` has start `st`, next
    send `nx` and holds the records `R`, and no record named `n` of a registered service is left
    to come to that probe (`Settled`, part of `Good`: such a record would start the probe over) -
    other probes, services, interfaces, queued re-runs and timers arbitrary.  While the probe
    does not end (`now < nx`, or `now < st + 750`, or its three queries are not yet sent:
    `nx < st + 750`): the probe
    query for `n` leaves on `i` in this iteration exactly if `now ≥ nx` - on every family of the
    interface, a query packet with `ANY n` among the questions and all of `R` among the
    authorities - and then `nx` becomes `now + 250` and the start moves by the lateness
    `now - nx` (repair of D31); otherwise the probe is as before. -/
theorem probe_query_in_daemon (s : State) (i : MyIntf) (l1 l2 : List MyIntf) (n : BList) (st nx : Nat) (R : Cargo) (now j : Nat)
    (h : Good s i l1 l2 n st nx R) (hlive : now < nx ∨ now < st + 750 ∨ nx < st + 750) :
    Good (iter s (idle now j)).1 i l1 l2 n (if now ≥ nx then st + (now - nx) else st) (if now ≥ nx then now + 250 else nx) R ∧
    (now < nx → asked i.index n (iter s (idle now j)).2 = false) ∧
    (now ≥ nx → ∀ v4, i.hasFamily v4 = true → ∃ pkt, Out.send i.index v4 none pkt ∈ (iter s (idle now j)).2 ∧
      pkt.flags = 0 ∧ (n, TYPE_ANY) ∈ pkt.questions ∧ ∀ a ∈ R.recs, a ∈ pkt.authorities) :=
  iter_idle_step s i l1 l2 n st nx R now j h hlive

/-- The probe's life cycle in the daemon: timely scheduler, no conflict, for ANY state as above in
    which the probe of `n` on interface `i` is fresh (`start = next_send = T`): over idle loop
    iterations at exactly `T`, `T+250`, `T+500`, `T+750` and at ANY other instants in between
    (`pre0 … pre3`), the iterations in which a probe query for `n` leaves on `i` are exactly those
    at `T`, `T+250` and `T+500` - none before, none in between, none at `T+750` - and after the
    iteration at `T+750` every record of the probe (filed under `n`) is active on `i`. -/
theorem probe_schedule_in_daemon (s : State) (i : MyIntf) (l1 l2 : List MyIntf) (n : BList) (T : Nat) (R : Cargo) (j : Nat)
    (h : Good s i l1 l2 n T T R) (hfam : ∃ v4, i.hasFamily v4 = true)
    (pre0 pre1 pre2 pre3 : List Nat)
    (h0 : ∀ t ∈ pre0, t < T) (h1 : ∀ t ∈ pre1, t < T + 250) (h2 : ∀ t ∈ pre2, t < T + 500) (h3 : ∀ t ∈ pre3, t < T + 750) :
    askTimes i.index n
      (idleRun j s ((pre0 ++ [T]) ++ ((pre1 ++ [T + 250]) ++ ((pre2 ++ [T + 500]) ++ (pre3 ++ [T + 750]))))).2 =
      [T, T + 250, T + 500] ∧
    ∀ a ∈ R.recs, a.getName = n →
      ((idleRun j s ((pre0 ++ [T]) ++ ((pre1 ++ [T + 250]) ++ ((pre2 ++ [T + 500]) ++ (pre3 ++ [T + 750]))))).1.registry
        i.index).isActive a = true := by
  obtain ⟨g1, a1⟩ := idleRun_phase j i l1 l2 n T T R s pre0 h (by omega) hfam h0
  obtain ⟨g2, a2⟩ := idleRun_phase j i l1 l2 n T (T + 250) R _ pre1 g1 (by omega) hfam h1
  obtain ⟨g3, a3⟩ := idleRun_phase j i l1 l2 n T (T + 250 + 250) R _ pre2 g2 (by omega) hfam (by simpa [Nat.add_assoc] using h2)
  obtain ⟨a4, hact⟩ := idleRun_final j i l1 l2 n T (T + 250 + 250 + 250) R _ pre3 g3 (by omega) (by simpa [Nat.add_assoc] using h3)
  have e500 : T + 500 = T + 250 + 250 := by omega
  have e750 : T + 750 = T + 250 + 250 + 250 := by omega
  rw [e500, e750]
  rw [idleRun_append, idleRun_append, idleRun_append]
  refine ⟨?_, hact⟩
  simp only [askTimes_append]
  rw [a1, a2, a3, a4]
  rfl

/-- A registration starts the probe (any running daemon state, `register(svc)` processed at `now`
    under jitter `j` in an iteration without datagram or other command): for a unique record `a`
    of the service on interface `i` that this daemon does not hold yet - not active, its name `n`
    not being probed, and every record named `n` of the services registered so far active
    (`Settled`) - the probe of `n` on `i` exists afterwards with start `now + j`, holding `a`
    or a matching record `b`; a probe query went out in this very iteration iff `j = 0`. -/
theorem registration_starts_probe (s : State) (i : MyIntf) (l1 l2 : List MyIntf) (svc : Service) (now j : Nat)
    (v4 : Bool) (a : RR) (n : BList)
    (hrun : s.stopped = false) (hi : IntfsOk s i l1 l2) (hok : RerunsOk s)
    (hpn : KeysNodup (s.registry i.index).probing) (hnr : NoRen (s.registry i.index))
    (hlen : Names.checkServiceNameLength svc.ty s.nameLenMax = .ok ()) (hauto : svc.addrAuto = false)
    (hprobe : svc.probe = true) (hne : addrsOn svc i v4 ≠ [])
    (ha : a ∈ uniqueRecords svc i (s.registry i.index) v4) (hname : a.getName = n)
    (hinactive : (s.registry i.index).isActive a = false) (hfresh : alookup n (s.registry i.index).probing = none)
    (hset : Settled s i.index n) :
    ∃ b, a.matchesRR b = true ∧ b.getName = n ∧
      Good (iter s { now := now, jitter := j, cmds := [.register svc] }).1 i l1 l2 n (now + j)
        (if j = 0 then now + 250 else now + j) ⟨[b], [svc.fullname], alookup n (s.registry i.index).active⟩ ∧
      (j ≠ 0 → asked i.index n (iter s { now := now, jitter := j, cmds := [.register svc] }).2 = false) ∧
      (j = 0 → ∀ v4', i.hasFamily v4' = true →
        ∃ pkt, Out.send i.index v4' none pkt ∈ (iter s { now := now, jitter := j, cmds := [.register svc] }).2 ∧
          pkt.flags = 0 ∧ (n, TYPE_ANY) ∈ pkt.questions ∧ b ∈ pkt.authorities) :=
  registration_creates_probe s i l1 l2 svc now j v4 a n hrun hi hok hpn hnr hlen hauto hprobe hne ha hname hinactive hfresh hset

/-- From the registration to the active record: jitter `j ≥ 1`, timely scheduler, no conflict: in any
    running daemon state, `register(svc)` at `t0` under jitter `j`, then idle iterations at exactly
    `T = t0+j`, `T+250`, `T+500`, `T+750` and at any other instants in between.  For a unique
    record `a` of the service on interface `i` that the daemon did not hold (and no record named
    `n` of another registered service left to join a probe): no probe query for its
    name `n` in the registration iteration; afterwards probe queries for `n` leave on `i` in
    exactly the iterations at `T`, `T+250`, `T+500`; and after the iteration at `T+750` the record
    `a` is active on `i` - not before the probe is 750 ms old (`active_only_after_probe`). -/
theorem registration_probe_lifecycle (s : State) (i : MyIntf) (l1 l2 : List MyIntf) (svc : Service) (t0 j : Nat)
    (v4 : Bool) (a : RR) (n : BList)
    (hrun : s.stopped = false) (hi : IntfsOk s i l1 l2) (hok : RerunsOk s)
    (hpn : KeysNodup (s.registry i.index).probing) (hnr : NoRen (s.registry i.index))
    (hlen : Names.checkServiceNameLength svc.ty s.nameLenMax = .ok ()) (hauto : svc.addrAuto = false)
    (hprobe : svc.probe = true) (hne : addrsOn svc i v4 ≠ [])
    (ha : a ∈ uniqueRecords svc i (s.registry i.index) v4) (hname : a.getName = n)
    (hinactive : (s.registry i.index).isActive a = false) (hfresh : alookup n (s.registry i.index).probing = none)
    (hset : Settled s i.index n) (hj : j ≠ 0) (hfam : ∃ v4', i.hasFamily v4' = true)
    (pre0 pre1 pre2 pre3 : List Nat)
    (h0 : ∀ t ∈ pre0, t < t0 + j) (h1 : ∀ t ∈ pre1, t < t0 + j + 250) (h2 : ∀ t ∈ pre2, t < t0 + j + 500)
    (h3 : ∀ t ∈ pre3, t < t0 + j + 750) :
    asked i.index n (iter s { now := t0, jitter := j, cmds := [.register svc] }).2 = false ∧
    askTimes i.index n
      (idleRun j (iter s { now := t0, jitter := j, cmds := [.register svc] }).1
        ((pre0 ++ [t0 + j]) ++ ((pre1 ++ [t0 + j + 250]) ++ ((pre2 ++ [t0 + j + 500]) ++ (pre3 ++ [t0 + j + 750]))))).2 =
      [t0 + j, t0 + j + 250, t0 + j + 500] ∧
    ((idleRun j (iter s { now := t0, jitter := j, cmds := [.register svc] }).1
        ((pre0 ++ [t0 + j]) ++ ((pre1 ++ [t0 + j + 250]) ++ ((pre2 ++ [t0 + j + 500]) ++ (pre3 ++ [t0 + j + 750]))))).1.registry
      i.index).isActive a = true := by
  obtain ⟨b, hm, hbn, hg, hno, _⟩ := registration_creates_probe s i l1 l2 svc t0 j v4 a n hrun hi hok hpn hnr hlen hauto hprobe
    hne ha hname hinactive hfresh hset
  simp only [hj, ↓reduceIte] at hg
  obtain ⟨hask, hact⟩ := probe_schedule_in_daemon _ i l1 l2 n (t0 + j)
    ⟨[b], [svc.fullname], alookup n (s.registry i.index).active⟩ j hg hfam pre0 pre1 pre2 pre3 h0 h1 h2 h3
  refine ⟨hno hj, hask, ?_⟩
  exact isActive_of_matches _ a b hm (hname.trans hbn.symm) (hact b (by simp) hbn)

/-! ### the two announcements -/

/-- The first announcement: when `probing_handler` wakes a registered service that is not yet
    `Announced` on interface `i` and whose unique records of family `v4` are all active there (it
    has an in-subnet address of that family): the announcement - PTR (and subtype PTR), SRV, TXT,
    the addresses, as answers of one response - leaves on `i` over that family; every monitor
    gets an event; the status becomes `Announced`; `RegisterResend` is queued for one second
    later and a timer is armed for it. -/
theorem first_announcement (now j : Nat) (i : MyIntf) (acc : State × List Out) (name : BList) (svc : Service) (v4 : Bool)
    (hsvc : alookup (lower name) acc.1.services = some svc) (hnot : svc.announcedOn i.index = false)
    (hne : addrsOn svc i v4 ≠ [])
    (hact : ∀ a ∈ uniqueRecords svc i (acc.1.registry i.index) v4, (acc.1.registry i.index).isActive a = true) :
    Out.send i.index v4 none (announcePkt svc ((acc.1.registry i.index).resolveName svc.fullname)
        (uniqueRecords svc i (acc.1.registry i.index) v4)) ∈ (wakeService now j i acc name).2 ∧
    (∃ svc', alookup (lower name) (wakeService now j i acc name).1.services = some svc' ∧ svc'.announcedOn i.index = true) ∧
    ReRun.registerResend (now + 1000) svc.fullname i.index ∈ (wakeService now j i acc name).1.reruns ∧
    (now + 1000) ∈ (wakeService now j i acc name).1.timers ∧
    (∀ ch ∈ acc.1.monitors, ∃ e, Out.event ch e ∈ (wakeService now j i acc name).2) :=
  wakeService_announces now j i acc name svc v4 hsvc hnot hne hact

/-- The second announcement: when the queued `RegisterResend` of a registered service that requires
    probing runs and the service is `Announced` on the interface - so that by the invariant
    (`announced_records_active`) its unique records of some family are active there - the
    announcement with the same record set leaves again on that interface over that family
    (whatever the letter case of the name, since the repair of D8). -/
theorem second_announcement (s : State) (now j : Nat) (fullname : BList) (i : MyIntf) (svc : Service) (r0 : Registry)
    (hsvc : alookup (lower fullname) s.services = some svc) (hreg : alookup i.index s.registries = some r0)
    (hfind : s.intfs.find? (·.index == i.index) = some i) (huniq : ∀ i' ∈ s.intfs, i'.index = i.index → i' = i)
    (hprobe : svc.probe = true) (hann : svc.announcedOn i.index = true) (hsound : SvcSound s svc) :
    ∃ v4, addrsOn svc i v4 ≠ [] ∧
      Out.send i.index v4 none (announcePkt svc (r0.resolveName svc.fullname) (uniqueRecords svc i r0 v4)) ∈
        (execRegisterResend s now j fullname i.index).2 :=
  registerResend_announces s now j fullname i svc r0 hsvc hreg hfind huniq hprobe hann hsound

/-! ### the whole life cycle, for any service and any daemon state -/

/-- the daemon state right after the iteration that processed `register(svc)` at `t0` under jitter `j` -/
def registered (s : State) (svc : Service) (t0 j : Nat) : State :=
  (iter s { now := t0, jitter := j, cmds := [.register svc] }).1

/-- the timely iterations from the registration to just before `T + 750` (`T = t0 + j`) -/
def probingTimes (T : Nat) (pre0 pre1 pre2 pre3 : List Nat) : List Nat :=
  (pre0 ++ [T]) ++ ((pre1 ++ [T + 250]) ++ ((pre2 ++ [T + 500]) ++ pre3))

/-- Announced twice, one second apart, for any service and any daemon state.  A running daemon
    (invariant `Inv`, interface `i` there once, unique keys and no renames in its registry, no
    queued goodbye repeat a query) processes `register(svc)` at `t0` under jitter `j ≥ 1`; `svc`
    requires probing, is a fresh `ServiceInfo` with fixed addresses, has an in-subnet address of
    family `v4` on `i`, none of its unique records of that family is held (not active, name
    not probed), and no record under one of those names of another registered service is left to
    join a probe (`Settled`).  Timely scheduler, no datagram and no other command: idle iterations at
    `T = t0+j`, `T+250`, `T+500`, `T+750`, `T+1750` and at any other instants in between.  Then
    the iteration at `T+750` sends the announcement - PTR (and subtype PTR), SRV, TXT and the
    addresses of the family as answers - on `i` over that family, and the iteration at `T+1750`
    sends it again (over a family in which the service has an address). -/
theorem registration_announced_twice (s : State) (i : MyIntf) (l1 l2 : List MyIntf) (svc : Service) (t0 j : Nat) (v4 : Bool)
    (hrun : s.stopped = false) (hinv : Inv s) (hi : IntfsOk s i l1 l2) (hok : RerunsOk s)
    (hpn : KeysNodup (s.registry i.index).probing) (hnr : NoRen (s.registry i.index))
    (hlen : Names.checkServiceNameLength svc.ty s.nameLenMax = .ok ()) (hauto : svc.addrAuto = false)
    (hprobe : svc.probe = true) (hstatus : svc.status = []) (hne : addrsOn svc i v4 ≠ [])
    (hfresh : ∀ a ∈ uniqueRecords svc i {} v4,
      (s.registry i.index).isActive a = false ∧ alookup a.getName (s.registry i.index).probing = none)
    (hset : ∀ a ∈ uniqueRecords svc i {} v4, Settled s i.index a.getName)
    (hj : j ≠ 0) (hfam : ∃ v4', i.hasFamily v4' = true)
    (pre0 pre1 pre2 pre3 pre4 : List Nat)
    (h0 : ∀ t ∈ pre0, t < t0 + j) (h1 : ∀ t ∈ pre1, t < t0 + j + 250) (h2 : ∀ t ∈ pre2, t < t0 + j + 500)
    (h3 : ∀ t ∈ pre3, t < t0 + j + 750) (h4 : ∀ t ∈ pre4, t < t0 + j + 750 + 1000) :
    Out.send i.index v4 none (announcePkt svc svc.fullname (uniqueRecords svc i {} v4)) ∈
      (iter (idleRun j (registered s svc t0 j) (probingTimes (t0 + j) pre0 pre1 pre2 pre3)).1 (idle (t0 + j + 750) j)).2 ∧
    SentAgain
      (iter (idleRun j
          (iter (idleRun j (registered s svc t0 j) (probingTimes (t0 + j) pre0 pre1 pre2 pre3)).1 (idle (t0 + j + 750) j)).1
          pre4).1 (idle (t0 + j + 750 + 1000) j)).2 i svc := by
  have hnc := hnr.1
  have huq : ∀ v, uniqueRecords svc i (s.registry i.index) v = uniqueRecords svc i {} v :=
    fun v => uniqueRecords_congr (r := {}) hnc svc i v
  -- the state after the registration
  have hplain : ({ now := t0, jitter := j, cmds := [.register svc] } : Input).plain :=
    ⟨fun _ h => by simp at h, fun x h => by
      simp only [List.mem_cons, Command.register.injEq, List.not_mem_nil, or_false] at h
      subst h; exact hstatus⟩
  have hinv1 : Inv (registered s svc t0 j) := iter_inv s _ hinv hplain
  have hent1 : Entry (registered s svc t0 j) (lower svc.fullname) svc := registration_entry s svc t0 j hrun hlen hauto
  -- every unique record of the family is probed, fresh at T = t0 + j
  have hall1 : AllProbed (registered s svc t0 j) i l1 l2 svc v4 (t0 + j) (t0 + j) := by
    intro a ha
    obtain ⟨hina, hfra⟩ := hfresh a ha
    obtain ⟨b, hm, hbn, hg, _, _⟩ := registration_creates_probe s i l1 l2 svc t0 j v4 a a.getName hrun hi hok hpn hnr hlen hauto
      hprobe hne (by rw [huq]; exact ha) rfl hina hfra (hset a ha)
    simp only [hj, ↓reduceIte] at hg
    exact ⟨b, _, hm, hbn, by simpa [Registry.isActive] using hina, hg⟩
  -- ... and still so just before T + 750
  have hallk : AllProbed (idleRun j (registered s svc t0 j) (probingTimes (t0 + j) pre0 pre1 pre2 pre3)).1 i l1 l2 svc v4
      (t0 + j) (t0 + j + 750) := by
    intro a ha
    obtain ⟨b, A, hm, hbn, hA, hg⟩ := hall1 a ha
    exact ⟨b, A, hm, hbn, hA, idleRun_to_end j i l1 l2 a.getName (t0 + j) _ _ hg hfam pre0 pre1 pre2 pre3 h0 h1 h2 h3⟩
  have hinvk := idleRun_inv j (probingTimes (t0 + j) pre0 pre1 pre2 pre3) _ hinv1
  have hentk := idleRun_entry j (lower svc.fullname) svc (probingTimes (t0 + j) pre0 pre1 pre2 pre3) _ hent1
  -- the first announcement
  obtain ⟨hsend, hann, hrer⟩ := iter_idle_announces _ i l1 l2 svc v4 (t0 + j) j hinvk hentk hprobe hne hallk
  refine ⟨hsend, ?_⟩
  -- the bundle after it, carried to the second announcement
  obtain ⟨_, _, _, _, _, hgk⟩ := hallk (srvOf svc) (srvOf_mem svc i v4)
  have hafter : After (iter (idleRun j (registered s svc t0 j) (probingTimes (t0 + j) pre0 pre1 pre2 pre3)).1
      (idle (t0 + j + 750) j)).1 i l1 l2 svc (t0 + j + 750 + 1000) :=
    ⟨(iter_idle_frame _ _ j hgk.running).2, hgk.intfs.congr (iter_idle_frame _ _ j hgk.running).1,
      iter_inv _ _ hinvk (idle_plain _ j), hann, hrer⟩
  exact iter_idle_reannounces (After.run j pre4 _ hafter h4) hprobe _ j (Nat.le_refl _)

/-! ### findings (the model mirrors the code; both agree on the witnesses in corpus/C07) -/

/-- Repaired (D31, late iteration: a probe that had sent
    nothing ended in the first iteration 750 ms or more after its start).  Three queries whatever
    the scheduler: a fresh probe (start = first send = `T`), looked at at ANY instants - late, in
    bursts, in any order - sends at most three queries, none before `T`, each at least 250 ms
    after the one before; and if it ends, it has sent exactly three and ends at least 250 ms
    after the third. -/
theorem three_probes_whatever_the_scheduler (T : Nat) (ts : List Nat) :
    (sendTimes ((Probe.new T).trace ts)).length ≤ 3 ∧ (∀ x ∈ sendTimes ((Probe.new T).trace ts), T ≤ x) ∧
    (sendTimes ((Probe.new T).trace ts)).Pairwise (fun a b => a + 250 ≤ b) ∧
    (∀ te, endTime ((Probe.new T).trace ts) = some te →
      (sendTimes ((Probe.new T).trace ts)).length = 3 ∧ ∀ x ∈ sendTimes ((Probe.new T).trace ts), x + 250 ≤ te) := by
  obtain ⟨h1, h2, h3, h4⟩ := Probe.trace_three ts (Probe.new T) 0 (Probe.Sent.new T)
  exact ⟨by omega, h2, h3, fun te hte => ⟨by have := (h4 te hte).1; omega, (h4 te hte).2.2⟩⟩

/-- the same for a probe that starts over (a lost tiebreak, a record that joined): whatever was
    sent before, three queries follow the new start -/
theorem three_probes_after_restart (p : Probe) (T : Nat) (ts : List Nat) :
    let q : Probe := { p with start := T, next := T }
    (sendTimes (q.trace ts)).length ≤ 3 ∧ (∀ x ∈ sendTimes (q.trace ts), T ≤ x) ∧
    (∀ te, endTime (q.trace ts) = some te → (sendTimes (q.trace ts)).length = 3) := by
  intro q
  obtain ⟨h1, h2, _, h4⟩ := Probe.trace_three ts q 0 ⟨rfl, by omega⟩
  exact ⟨by omega, h2, fun te hte => by have := (h4 te hte).1; omega⟩

/-- Regression (D31): the first iteration comes 800 ms after the start of the probe - it sends
    the first query (it ended the probe before the repair); the probe ends only after two more. -/
example : (Probe.new 1000).trace [1800, 2050, 2300, 2550] =
    [(1800, .send), (2050, .send), (2300, .send), (2550, .expire)] := by decide

/-- Repaired (D33, shared probe): a record that comes to an
    existing probe of its name - a second service on the same host name with another address -
    and is not matched there joins the probe, and when the probe has sent a query already
    (`next_send` has moved on from `start_time`) the probe's schedule starts over at `t`: the record
    gets three probe queries of its own (`three_probes_after_restart`).  A record that is matched,
    or a probe that has sent nothing yet, keeps the times. -/
theorem joining_record_restarts_probe (r : Registry) (a : RR) (n : BList) (t : Nat) (q : Probe)
    (h : alookup a.getName r.probing = some q) :
    ∃ p, alookup a.getName (r.probeInsert a n t).probing = some p ∧ p.records.any (a.matchesRR ·) = true ∧
      (q.records.any (a.matchesRR ·) = false → q.start < q.next → p.start = t ∧ p.next = t) ∧
      ((q.records.any (a.matchesRR ·) = true ∨ q.next ≤ q.start) → p.start = q.start ∧ p.next = q.next) := by
  obtain ⟨p, hp, _, hold⟩ := probeInsert_times r a n t
  refine ⟨p, hp, ?_, ?_, ?_⟩
  · simp only [Registry.probeInsert, alookup_aset_self, h, Option.getD_some, Option.some.injEq] at hp
    subst hp
    rw [Probe.join_records]
    split
    · assumption
    · simp only [List.any_eq_true]
      exact ⟨a, (mem_insertRR a a _).mpr (Or.inl rfl), RR.matchesRR_self a⟩
  · intro h1 h2
    rcases hold q h with ⟨_, _, h3⟩ | ⟨e1, e2, _⟩
    · simp [Probe.restarts, h1, h2] at h3
    · exact ⟨e1, e2⟩
  · intro h1
    rcases hold q h with ⟨e1, e2, _⟩ | ⟨_, _, h3⟩
    · exact ⟨e1, e2⟩
    · have := Probe.restarts_spec h3
      rcases h1 with h1 | h1
      · rw [this.1] at h1; cases h1
      · omega

/-- a second service on the host name of `web`, with another address -/
def web2 : Service := { web with
  fullname := [0x74,0x77,0x6f,0x2e,0x5f,0x68,0x74,0x74,0x70,0x2e,0x5f,0x74,0x63,0x70,0x2e,0x6c,0x6f,0x63,0x61,0x6c,0x2e],
  addrs := [[192, 168, 1, 21]] }

def web2A : RR := { name := web.host, ty := 1, flush := true, ttl := 120, rdata := .a [192, 168, 1, 21] }

/-- the SRV record of `web` -/
def webSrv' : RR := { name := web.fullname, ty := 33, flush := true, ttl := 120, rdata := .srv 0 0 80 web.host }

/-- is `a` among the authorities of a probe query of this iteration? -/
def probesWith (a : RR) (outs : List Out) : Bool :=
  outs.any fun
    | .send _ _ none p => p.flags == 0 && p.authorities.contains a
    | _ => false

/-- is `a` among the answers of a response of this iteration? -/
def answersWith (a : RR) (outs : List Out) : Bool :=
  outs.any fun
    | .send _ _ none p => p.flags != 0 && p.answers.contains a
    | _ => false

/-- the history of the D33 witness (corpus/C07/d33_shared_probe_age.ops): `web` registered at
    1000000, `web2` - same host name, another address - 600 ms later, while the probe of the host
    name is running; timely iterations -/
def sharedHostRun : List (List Out) :=
  (run (init 1000000 [eth0])
    ([{ now := 1000000, jitter := 7, cmds := [.register web] }, { now := 1000007, jitter := 7 }, { now := 1000257, jitter := 7 },
      { now := 1000507, jitter := 7 }, { now := 1000600, jitter := 7, cmds := [.register web2] }] ++
      [1000607, 1000757, 1000857, 1001107, 1001357].map fun t => { now := t, jitter := 7 })).2

set_option maxRecDepth 100000 in
/-- Regression (D33): the address record of the second service is probed three times - at
    1000607, 1000857, 1001107 - before the announcement at 1001357 carries it; before the repair
    it went out at 1000757 after one probe query. -/
example :
    sharedHostRun.map (probesWith web2A) = [false, false, false, false, false, true, false, true, true, false] ∧
    sharedHostRun.map (answersWith web2A) = [false, false, false, false, false, false, false, false, false, true] := by
  decide +kernel

/-! ### the exact packet list of a concrete registration under the timely scheduler -/

/-- a registration the life cycle is stated for: probing required, fresh `ServiceInfo`, fixed
    addresses, an in-subnet address in some family, instance and host names differ and are not
    yet held (fresh daemon), the type name is not too long -/
def Registrable (i : MyIntf) (svc : Service) : Prop :=
  svc.probe = true ∧ svc.status = [] ∧ svc.addrAuto = false ∧ svc.fullname ≠ svc.host ∧
  (addrsOn svc i true ≠ [] ∨ addrsOn svc i false ≠ []) ∧ Names.checkServiceNameLength svc.ty 15 = .ok ()

/-- Full strength (not proved in this generality): for every interface, every registrable
    service, every start time and every jitter below 250 ms, the packets of the timely run are
    exactly: three probe queries at `t0+j`, `t0+j+250`, `t0+j+500` on every family of the
    interface, with `ANY` questions for instance and host name and all proposed records as
    authorities; then, and not before, the announcement at `t0+j+750` and again at
    `t0+j+1750` over every family in which the service has an address. -/
def probe_lifecycle_full : Prop :=
  ∀ (i : MyIntf) (svc : Service) (t0 j : Nat), j < 250 → Registrable i svc →
    sendsAt (lifecycle i svc t0 j) = expectedSends i svc t0 j

/-- the life cycle checked for a range of jitters by evaluating the model -/
def lifecycleOk (i : MyIntf) (svc : Service) (t0 : Nat) (js : List Nat) : Bool :=
  js.all fun j => sendsAt (lifecycle i svc t0 j) == expectedSends i svc t0 j

/-- every jitter 0..249, IPv4 interface, lower-case name -/
theorem lifecycle_all_jitters : lifecycleOk eth0 web 1000000 (List.range 250) = true := by
  simp only [lifecycleOk, List.all_eq_true, List.mem_range, beq_iff_eq]
  exact lifecycle_web_lt

set_option maxRecDepth 100000 in
/-- a spread of jitters, dual-stack interface, mixed-case instance name, subtype, TXT data:
    two packets per send; the second announcement is there (repair of D8) -/
theorem lifecycle_dual_stack_mixed_case :
    lifecycleOk eth0dual webMixed 1000000 [0, 1, 7, 100, 125, 248, 249] = true := by decide +kernel

theorem lifecycleOk_spec (i : MyIntf) (svc : Service) (t0 : Nat) (js : List Nat) (h : lifecycleOk i svc t0 js = true) :
    ∀ j ∈ js, sendsAt (lifecycle i svc t0 j) = expectedSends i svc t0 j := by
  intro j hj
  simp only [lifecycleOk, List.all_eq_true] at h
  exact eq_of_beq (h j hj)

/-- The proved part of `probe_lifecycle_full`: the exact life cycle for every jitter below 250 on
    the concrete registration `web` on `eth0` at `t0 = 1000000`, and for a spread of jitters on
    the dual-stack mixed-case registration.  Missing for the full statement: arbitrary service
    data and interface (for these the theorems above - `registration_probe_lifecycle`,
    `registration_announced_twice` - give the packets that must leave and when, not that nothing
    else is sent; for `web` on `eth0` the run is computed for every start time, `lifecycle_web`). -/
theorem probe_lifecycle_partial :
    (∀ j, j < 250 → sendsAt (lifecycle eth0 web 1000000 j) = expectedSends eth0 web 1000000 j) ∧
    (∀ j ∈ [0, 1, 7, 100, 125, 248, 249],
      sendsAt (lifecycle eth0dual webMixed 1000000 j) = expectedSends eth0dual webMixed 1000000 j) :=
  ⟨lifecycle_web_lt, lifecycleOk_spec eth0dual webMixed 1000000 _ lifecycle_dual_stack_mixed_case⟩

/-! ### non-vacuity -/

example : Registrable eth0 web := by unfold Registrable; decide
example : Registrable eth0dual webMixed := by unfold Registrable; decide

/-- the packets of one concrete life cycle (jitter 7): three probes, two announcements -/
example : (sendsAt (lifecycle eth0 web 1000000 7)).map (·.1) = [1000007, 1000257, 1000507, 1000757, 1001757] := by
  decide +kernel

/-- after the life cycle the service is `Announced` and its records are active: the
    hypotheses of `announced_records_active` are met by a reachable, non-empty state -/
example :
    ((run (init 1000000 [eth0])
        [{ now := 1000000, jitter := 7, cmds := [.register web] }, { now := 1000007, jitter := 7 },
         { now := 1000257, jitter := 7 }, { now := 1000507, jitter := 7 }, { now := 1000757, jitter := 7 }]).1.services.map
      fun e => (e.2.announcedOn 2, e.2.probe)) = [(true, true)] := by decide +kernel

/-- Regression (D31, corpus/C07/d31_late_first_iteration.ops): registered at 1000000 with jitter
    10, next iteration 800 ms later: that iteration sends the first PROBE QUERY (before the repair
    it announced at once, not one query sent); two more follow, then the announcement -/
example :
    (run (init 1000000 [eth0])
      ([{ now := 1000000, jitter := 10, cmds := [.register web] }] ++
        [1000800, 1001050, 1001300, 1001550].map fun t => { now := t, jitter := 10 })).2.map
      (fun outs => (probesWith webSrv' outs, answersWith webSrv' outs)) =
      [(false, false), (true, false), (true, false), (true, false), (false, true)] := by decide +kernel

/-! non-vacuity of `probe_schedule_in_daemon`: the state right after `register(web)` on a fresh
    daemon (jitter 7) satisfies `Good` for the probe of the instance name, fresh at 1000007 -/

def probingState : State := (iter (init 1000000 [eth0]) { now := 1000000, jitter := 7, cmds := [.register web] }).1

def probingRegistry : Registry :=
  { probing := [(web.fullname, { records := [webTxt, webSrv], waiting := [web.fullname], start := 1000007, next := 1000007 }),
                (web.host, { records := [webA], waiting := [web.fullname], start := 1000007, next := 1000007 })] }

theorem probingState_registry : probingState.registry 2 = probingRegistry := by
  rw [probingState, reg_step 1000000 7 (by decide)]; rfl

example : Good probingState eth0 [] [] web.fullname 1000007 1000007 ⟨[webTxt, webSrv], [web.fullname], none⟩ := by
  have probingState_eq : probingState = probingSt 1000007 1000007 3 1005000 :=
    congrArg Prod.fst (reg_step 1000000 7 (by decide))
  refine ⟨by rw [probingState_eq]; rfl, ⟨by rw [probingState_eq]; rfl, by simp⟩, ⟨?_, ?_, ?_, ?_, ?_⟩, ?_⟩
  · exact ⟨{ records := [webTxt, webSrv], waiting := [web.fullname], start := 1000007, next := 1000007 },
      by rw [eth0_index, probingState_registry]; decide, rfl, rfl, fun a h => h, fun w h => h⟩
  · rw [eth0_index, probingState_registry]
    unfold KeysNodup
    decide
  · rw [eth0_index, probingState_registry]
    refine ⟨rfl, ?_⟩
    intro n p hm a ha
    simp only [probingRegistry, List.mem_cons, Prod.mk.injEq, List.not_mem_nil, or_false] at hm
    rcases hm with ⟨_, rfl⟩ | ⟨_, rfl⟩
    · simp only [List.mem_cons, List.not_mem_nil, or_false] at ha
      rcases ha with rfl | rfl <;> rfl
    · simp only [List.mem_cons, List.not_mem_nil, or_false] at ha
      subst ha; rfl
  · rw [eth0_index, probingState_registry]; rfl
  · -- the only registered service is `web`; its records under the instance name sit in the probe
    have hsv : probingState.services = [(web.fullname, { web with status := [(2, .probing)] })] := by rw [probingState_eq]; rfl
    have hin : probingState.intfs = [eth0] := by rw [probingState_eq]; rfl
    intro k svc hk _ i hi _ v4 hne a ha hn
    rw [hsv] at hk
    simp only [alookup] at hk
    split at hk
    · cases hk
      rw [hin] at hi
      simp only [List.mem_cons, List.not_mem_nil, or_false] at hi
      subst hi
      right
      refine ⟨{ records := [webTxt, webSrv], waiting := [web.fullname], start := 1000007, next := 1000007 },
        by rw [eth0_index, probingState_registry]; decide, ?_⟩
      cases v4
      · exact absurd (by decide) hne
      · have hu : uniqueRecords { web with status := [(2, .probing)] } eth0 {} true = [webSrv, webTxt, webA] := by decide
        rw [hu] at ha
        simp only [List.mem_cons, List.not_mem_nil, or_false] at ha
        rcases ha with rfl | rfl | rfl
        · decide
        · decide
        · exact absurd hn (by decide)
    · cases hk
  · intro t p k v hm
    have : probingState.reruns = [] := by rw [probingState_eq]; rfl
    rw [this] at hm
    cases hm

/-! non-vacuity of `registration_probe_lifecycle`: its hypotheses hold for `register(web)` on the
    fresh daemon with the SRV record of `web` (jitter 7, no extra iterations) -/

theorem init_registry : (init 1000000 [eth0]).registry eth0.index = {} := by decide +kernel

example :
    askTimes 2 web.fullname
      (idleRun 7 (iter (init 1000000 [eth0]) { now := 1000000, jitter := 7, cmds := [.register web] }).1
        (([] ++ [1000000 + 7]) ++ (([] ++ [1000000 + 7 + 250]) ++ (([] ++ [1000000 + 7 + 500]) ++ ([] ++ [1000000 + 7 + 750]))))).2 =
      [1000000 + 7, 1000000 + 7 + 250, 1000000 + 7 + 500] :=
  (registration_probe_lifecycle (init 1000000 [eth0]) eth0 [] [] web 1000000 7 true webSrv web.fullname
    (hrun := by decide) (hi := ⟨by decide, by simp⟩) (hok := fun _ _ _ _ h => by simp [init] at h)
    (hpn := by rw [init_registry]; unfold KeysNodup; decide) (hnr := by rw [init_registry]; exact NoRen.empty)
    (hlen := by decide) (hauto := rfl) (hprobe := rfl) (hne := by decide)
    (ha := by rw [init_registry]; decide) (hname := rfl)
    (hinactive := by rw [init_registry]; decide) (hfresh := by rw [init_registry]; decide)
    (hset := fun k svc hk => by simp [init, alookup] at hk) (hj := by decide) (hfam := ⟨true, by decide⟩)
    (pre0 := []) (pre1 := []) (pre2 := []) (pre3 := [])
    (h0 := by simp) (h1 := by simp) (h2 := by simp) (h3 := by simp)).2.1

end Mdns.Props.C07
