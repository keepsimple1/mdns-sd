import Mdns.Lemmas.Responder
import Mdns.Lemmas.ResponderQuery
/-
  C09  Unregistering says goodbye for exactly what was announced, then goes quiet.

  Model: `Mdns/Model/Responder.lean` (`execUnregister`, `goodbyePkt`, `execUnregisterResend`,
  `cleanup`, `execRegisterResend`), compared with the real daemon thread on every run: reply,
  goodbye packets (interface, family, every record with TTL), the repeat 120 ms later and the
  silence afterwards agree on all generated histories.

  Proved: the reply (`unregister_reply`), the goodbye contract (`goodbye_contract`: one packet
  per interface on which the service is `Announced` and family with an in-subnet address, PTR
  (+ subtype PTR), SRV, TXT, addresses, all TTL 0, repeated once at +120 ms with the same
  content; `shutdown_goodbyes`), "only where announced" (`goodbye_only_where_announced`, the
  statement `goodbye_contract_full` - it was FALSE before the repair of D30: the goodbye went
  out wherever the service had an in-subnet address, also while it was still probing; the
  witness corpus/C09/d30_goodbye_while_probing.ops is a regression `example` below), the
  unregistered service leaves the probes it waited for and a probe nobody else waits for is
  dropped (`unregister_leaves_probes`), and quiet afterwards (`quiet_after`).

  NOT as the statement reads it: the goodbye always carries the names as registered (D21).
-/
namespace Mdns.Props.C09
open Mdns Mdns.Responder

/-- `unregister(name)` answers OK exactly when a service is registered under the lower-cased
    name, NotFound otherwise; exactly one reply is sent, on the caller's channel. -/
theorem unregister_reply (s : State) (now : Nat) (name : BList) (ch : Nat) :
    (Out.unregReply ch true ∈ (execUnregister s now name ch).2 ↔ ∃ svc, (lower name, svc) ∈ s.services) ∧
    (Out.unregReply ch false ∈ (execUnregister s now name ch).2 ↔ ¬ ∃ svc, (lower name, svc) ∈ s.services) := by
  rw [← alookup_isSome_iff]
  cases hl : alookup (lower name) s.services <;> simp [execUnregister, hl]

/-- NotFound changes nothing -/
theorem unregister_unknown_noop (s : State) (now : Nat) (name : BList) (ch : Nat)
    (h : alookup (lower name) s.services = none) : execUnregister s now name ch = (s, [.unregReply ch false]) := by
  simp [execUnregister, h]

/-- On OK: the packets sent are exactly the goodbye packets of the service, one per
    (interface on which it is `Announced`, family) - followed by the reply; each is queued once
    more for `now + 120` ms with the same content, and a timer is armed for it. -/
theorem goodbye_contract (s : State) (now : Nat) (name : BList) (ch : Nat) (svc : Service)
    (h : alookup (lower name) s.services = some svc) :
    (execUnregister s now name ch).2 =
      (goodbyes (announcedIntfs s svc) svc).map (fun g => Out.send g.1 g.2.1 none g.2.2) ++ [.unregReply ch true] ∧
    (execUnregister s now name ch).1.reruns =
      s.reruns ++ (goodbyes (announcedIntfs s svc) svc).map (fun g => ReRun.unregisterResend (now + 120) g.2.2 g.1 g.2.1) ∧
    (execUnregister s now name ch).1.timers = s.timers ++ (goodbyes (announcedIntfs s svc) svc).map (fun _ => now + 120) := by
  simp [execUnregister, h]

/-- the interfaces a goodbye is due on: those of the daemon on which the service is `Announced` -/
theorem mem_announcedIntfs (s : State) (svc : Service) (i : MyIntf) :
    i ∈ announcedIntfs s svc ↔ i ∈ s.intfs ∧ svc.announcedOn i.index = true := by
  simp [announcedIntfs, List.mem_filter]

/-- Which goodbye packets there are: one for an interface index and a family exactly when an
    interface with that index has an in-subnet address of the service in that family. -/
theorem goodbye_packets (intfs : List MyIntf) (svc : Service) (idx : Nat) (v4 : Bool) (p : Packet) :
    (idx, v4, p) ∈ goodbyes intfs svc ↔ ∃ i ∈ intfs, i.index = idx ∧ goodbyePkt svc i v4 = some p :=
  mem_goodbyes

/-- The content of a goodbye packet: a response with id 0 whose answers are PTR (and subtype
    PTR), SRV, TXT and the in-subnet addresses of the family, nothing else, every record with
    TTL 0, under the names as registered. -/
theorem goodbye_content (svc : Service) (i : MyIntf) (v4 : Bool) (p : Packet) (h : goodbyePkt svc i v4 = some p) :
    addrsOn svc i v4 ≠ [] ∧ p.id = 0 ∧ p.flags = FLAGS_RESPONSE ∧ p.questions = [] ∧ p.authorities = [] ∧ p.additionals = [] ∧
    p.answers = ptrRecords svc svc.fullname 0 ++
      [{ name := svc.fullname, ty := TYPE_SRV, flush := true, ttl := 0, rdata := .srv 0 0 svc.port svc.host },
       { name := svc.fullname, ty := TYPE_TXT, flush := true, ttl := 0, rdata := .txt svc.txt }] ++
      (addrsOn svc i v4).map (fun ip => { name := svc.host, ty := addrType ip, flush := true, ttl := 0, rdata := addrRData ip }) ∧
    ∀ a ∈ p.answers, a.ttl = 0 ∧ a.newName = none :=
  have ⟨hne, hid, hflags, hq, hauth, hadd, hans⟩ := goodbyePkt_spec h
  ⟨hne, hid, hflags, hq, hauth, hadd, hans, goodbyePkt_ttl_zero h⟩

/-- no goodbye for a family in which the service has no address inside the interface's subnet -/
theorem no_goodbye_off_link (svc : Service) (i : MyIntf) (v4 : Bool) (h : addrsOn svc i v4 = []) :
    goodbyePkt svc i v4 = none := by
  simp [goodbyePkt, h]

/-- The repeat: when the queued `UnregisterResend` runs and the interface still has an address
    of the family, the very same packet is multicast again on that interface and family. -/
theorem goodbye_resend (s : State) (now j t : Nat) (p : Packet) (i : MyIntf) (v4 : Bool) (outs : List Out)
    (hi : s.intfs.find? (·.index == i.index) = some i) (hf : i.hasFamily v4 = true) :
    execRerun now j (s, outs) (.unregisterResend t p i.index v4) = (s, outs ++ [.send i.index v4 none p]) := by
  simp [execRerun, execUnregisterResend, hi, hf]

/-- Shutdown: a goodbye for every registered service, on every interface (where it is
    `Announced`) and family as for unregister; afterwards nothing is registered and nothing is queued. -/
theorem shutdown_goodbyes (s : State) :
    (cleanup s).2 = s.services.flatMap (fun e => (goodbyes (announcedIntfs s e.2) e.2).map (fun g => Out.send g.1 g.2.1 none g.2.2)) ∧
    (cleanup s).1.services = [] ∧ (cleanup s).1.reruns = [] ∧ (cleanup s).1.stopped = true := by
  simp [cleanup]

/-- Quiet afterwards: the name is no longer registered (or it never was, and nothing changed). -/
theorem quiet_after (s : State) (now : Nat) (name : BList) (ch : Nat) :
    alookup (lower name) (execUnregister s now name ch).1.services = none ∨
      (alookup (lower name) s.services = none ∧ (execUnregister s now name ch).1 = s) := by
  unfold execUnregister
  cases hl : alookup (lower name) s.services with
  | none => right; simp
  | some svc => left; simp [alookup_aerase_self]

/-- every other service is registered as before, with unchanged data -/
theorem quiet_after_others (s : State) (now : Nat) (name : BList) (ch : Nat) (k : BList) (hk : k ≠ lower name) :
    alookup k (execUnregister s now name ch).1.services = alookup k s.services := by
  unfold execUnregister
  cases hl : alookup (lower name) s.services with
  | none => rfl
  | some svc => simp [alookup_aerase_ne _ _ _ hk]

/-- the queued second announcement of the service (in whatever letter case it was registered) is a no-op -/
theorem quiet_after_no_reannounce (s : State) (now j : Nat) (fullname : BList) (idx : Nat)
    (h : alookup (lower fullname) s.services = none) : execRegisterResend s now j fullname idx = (s, []) := by
  simp [execRegisterResend, h]

/-- a query is answered from the remaining services only: if none of them is announced on the
    interface, nothing is sent -/
theorem quiet_after_no_answer (s : State) (now : Nat) (name : BList) (ch : Nat) (t : Nat) (p : RxPkt) (i : MyIntf)
    (h : ∀ e ∈ s.services, e.1 ≠ lower name → e.2.announcedOn i.index = false) :
    (handleQuery (execUnregister s now name ch).1 t p i).2 = [] := by
  apply handleQuery_silent
  intro e he
  unfold execUnregister at he
  cases hl : alookup (lower name) s.services with
  | none =>
    rw [hl] at he
    exact h e he (alookup_none_not_mem hl e he)
  | some svc =>
    rw [hl] at he
    have := List.mem_filter.mp he
    exact h e this.1 (by simpa using this.2)

/-! ### the statement's "where the service was announced" -/

/-- FULL STRENGTH as the statement reads: a goodbye leaves only on interfaces where the service
    has been announced (status `Announced`). -/
def goodbye_contract_full : Prop :=
  ∀ (s : State) (now : Nat) (name : BList) (ch : Nat) (svc : Service), alookup (lower name) s.services = some svc →
    ∀ idx v4 p, Out.send idx v4 none p ∈ (execUnregister s now name ch).2 → svc.announcedOn idx = true

/-- THE CONTRACT, soundness (holds since the repair of D30): every packet `unregister` sends is
    the goodbye packet of the service for an interface of the daemon on which the service is
    `Announced` and a family in which it has an in-subnet address there; it is queued once more
    for `now + 120` ms and a timer is armed. -/
theorem goodbye_contract_sound (s : State) (now : Nat) (name : BList) (ch : Nat) (svc : Service)
    (h : alookup (lower name) s.services = some svc) :
    ∀ idx v4 p, Out.send idx v4 none p ∈ (execUnregister s now name ch).2 →
      (∃ i ∈ s.intfs, i.index = idx ∧ svc.announcedOn idx = true ∧ goodbyePkt svc i v4 = some p) ∧
      ReRun.unregisterResend (now + 120) p idx v4 ∈ (execUnregister s now name ch).1.reruns ∧
      (now + 120) ∈ (execUnregister s now name ch).1.timers := by
  intro idx v4 p hm
  obtain ⟨h1, h2, h3⟩ := goodbye_contract s now name ch svc h
  rw [h1, List.mem_append] at hm
  rcases hm with hm | hm
  · obtain ⟨g, hg, heq⟩ := List.mem_map.mp hm
    cases heq
    exact ⟨mem_goodbyes_announced.mp hg, h2 ▸ List.mem_append_right _ (List.mem_map_of_mem hg),
      h3 ▸ List.mem_append_right _ (List.mem_map_of_mem hg)⟩
  · cases List.mem_singleton.mp hm

/-- ONLY WHERE ANNOUNCED: the statement holds of the repaired code. -/
theorem goodbye_only_where_announced : goodbye_contract_full := by
  intro s now name ch svc h idx v4 p hm
  obtain ⟨⟨_, _, _, hann, _⟩, _⟩ := goodbye_contract_sound s now name ch svc h idx v4 p hm
  exact hann

/-- THE CONTRACT, completeness: on every interface of the daemon on which the service is
    `Announced`, for every family in which it has an in-subnet address there, the goodbye packet
    is sent. -/
theorem goodbye_where_announced (s : State) (now : Nat) (name : BList) (ch : Nat) (svc : Service)
    (h : alookup (lower name) s.services = some svc) (i : MyIntf) (hi : i ∈ s.intfs) (hann : svc.announcedOn i.index = true)
    (v4 : Bool) (p : Packet) (hp : goodbyePkt svc i v4 = some p) :
    Out.send i.index v4 none p ∈ (execUnregister s now name ch).2 := by
  rw [(goodbye_contract s now name ch svc h).1]
  exact List.mem_append_left _ (List.mem_map_of_mem (mem_goodbyes_announced.mpr ⟨i, hi, rfl, hann, hp⟩))

/-- the same for shutdown: every goodbye packet of `cleanup` is for a registered service on an
    interface on which that service is `Announced` -/
theorem shutdown_only_where_announced (s : State) (idx : Nat) (v4 : Bool) (p : Packet)
    (hm : Out.send idx v4 none p ∈ (cleanup s).2) :
    ∃ e ∈ s.services, e.2.announcedOn idx = true ∧ ∃ i ∈ s.intfs, i.index = idx ∧ goodbyePkt e.2 i v4 = some p := by
  rw [(shutdown_goodbyes s).1] at hm
  obtain ⟨e, he, hg⟩ := List.mem_flatMap.mp hm
  obtain ⟨g, hmem, heq⟩ := List.mem_map.mp hg
  cases heq
  obtain ⟨i, hi, hidx, hann, hp⟩ := mem_goodbyes_announced.mp hmem
  exact ⟨e, he, hann, i, hi, hidx, hp⟩

/-- UNREGISTER LEAVES THE PROBES (repair of D30): after an OK `unregister`, on every interface
    of the daemon, every probe that is left is a probe from before - same records, same times -
    in which the service does not wait any more; a probe in which only this service waited is
    gone (so no probe query is sent for it any more: `Props.C07.probe_query_only_probes`). -/
theorem unregister_leaves_probes (s : State) (now : Nat) (name : BList) (ch : Nat) (svc : Service)
    (h : alookup (lower name) s.services = some svc) (i : MyIntf) (hi : i ∈ s.intfs) :
    ∀ k p, (k, p) ∈ ((execUnregister s now name ch).1.registry i.index).probing →
      svc.fullname ∉ p.waiting ∧ ∃ q, (k, q) ∈ (s.registry i.index).probing ∧ p.records = q.records ∧ p.start = q.start ∧
        p.next = q.next ∧ p.waiting = q.waiting.filter (· != svc.fullname) ∧ (svc.fullname ∈ q.waiting → p.waiting ≠ []) := by
  have e : (execUnregister s now name ch).1.registry i.index = (purgeWaiting s svc.fullname).registry i.index := by
    simp [execUnregister, h, State.registry]
  rw [e]
  exact purgeWaiting_probes s svc.fullname i hi

/-- the state right after the iteration that registers `web` on a fresh daemon: still probing -/
def probingState : State := (iter (init 1000000 [eth0]) { now := 1000000, jitter := 7, cmds := [.register web] }).1

def probingSvc : Service := web.setStatus 2 .probing

def goodbyeOfWeb : Packet :=
  { flags := FLAGS_RESPONSE,
    answers := [{ name := web.ty, ty := TYPE_PTR, flush := false, ttl := 0, rdata := .ptr web.fullname },
                { name := web.fullname, ty := TYPE_SRV, flush := true, ttl := 0, rdata := .srv 0 0 80 web.host },
                { name := web.fullname, ty := TYPE_TXT, flush := true, ttl := 0, rdata := .txt [0] },
                { name := web.host, ty := TYPE_A, flush := true, ttl := 0, rdata := .a [192, 168, 1, 20] }] }

/-- REGRESSION (D30, witness corpus/C09/d30_goodbye_while_probing.ops): unregistering a service that is still probing - its
    name was never announced, it could still lose the probe - answers OK, sends NO goodbye, queues
    no repeat, leaves no probe behind, and the iterations at the times the probe queries would
    have left (+250, +500, +750 ms) send nothing. -/
example :
    (execUnregister probingState 1000100 web.fullname 1).2 = [.unregReply 1 true] ∧
    (execUnregister probingState 1000100 web.fullname 1).1.reruns = [] ∧
    ((execUnregister probingState 1000100 web.fullname 1).1.registry 2).probing = [] ∧
    (run (execUnregister probingState 1000100 web.fullname 1).1
      [{ now := 1000257, jitter := 7 }, { now := 1000507, jitter := 7 }, { now := 1000757, jitter := 7 }]).2 = [[], [], []] := by
  decide +kernel

/-! ### non-vacuity -/

/-- an announced service: unregister in another letter case answers OK, sends one goodbye with
    four TTL-0 records, queues the repeat for +120 ms -/
example :
    let s := (run (init 1000000 [eth0])
      [{ now := 1000000, jitter := 7, cmds := [.register web] }, { now := 1000007, jitter := 7 },
       { now := 1000257, jitter := 7 }, { now := 1000507, jitter := 7 }, { now := 1000757, jitter := 7 }]).1
    (execUnregister s 1001000 [0x57,0x45,0x42,0x2e,0x5f,0x68,0x74,0x74,0x70,0x2e,0x5f,0x74,0x63,0x70,0x2e,0x6c,0x6f,0x63,0x61,0x6c,0x2e] 5).2 =
      [.send 2 true none goodbyeOfWeb, .unregReply 5 true] := by decide +kernel

example : (execUnregister probingState 1000100 [0x78] 5).2 = [.unregReply 5 false] := by decide +kernel

end Mdns.Props.C09
