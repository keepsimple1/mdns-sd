import Mdns.Lemmas.Intf
import Mdns.Driver.MonLink
/-
  C18  Each interface is its own link - the component-level part.

  Model: `Mdns/Model/Intf.lean` (`IfKind::matches`, the selection loop of
  `selected_intfs` / `apply_intf_selections`, `resolve_addr_to_index`, `valid_ip_on_intf`,
  `get_addrs_on_my_intf_v4/v6`).

  Daemon level: there is no model of the daemon's interface handling; real histories
  (`sim C18`) are judged by `Mdns/Driver/MonLink.lean`, which computes the enabled addresses
  with the selection function of this file.
-/
namespace Mdns.Props.C18
open Mdns Mdns.Intf

/-- Enable/disable selections take effect in call order, the last match winning: an
    interface is selected exactly if the last selection that matches it enables it, and it is
    selected if no selection matches.  The verdict for an interface depends on that
    interface and the selections only - not on which other interfaces are present. -/
theorem selected_iff (sels : List Selection) (intfs : List Iface) :
    selectedMarks sels intfs = intfs.map (fun i => (lastMatch sels i).getD true) := by
  unfold selectedMarks
  exact foldl_selection intfs sels (fun _ => true)

/-- ... "also for interfaces that show up later": when the interface table grows, the old
    interfaces keep their verdict and the new one gets the verdict of the same rule. -/
theorem selected_later_interface (sels : List Selection) (intfs : List Iface) (i : Iface) :
    selectedMarks sels (intfs ++ [i]) = selectedMarks sels intfs ++ [selected sels i] := by
  simp [selected_iff, selected]

/-- The last matching selection, spelled out: with `sels = before ++ [s] ++ after`, `s`
    matching the interface and nothing in `after` matching it, the verdict is `s`'s. -/
theorem last_match_wins (before after : List Selection) (s : Selection) (i : Iface)
    (hs : s.1.matches i = true) (ha : ∀ x ∈ after, x.1.matches i = false) :
    selected (before ++ [s] ++ after) i = s.2 := by
  rw [selected, lastMatch_append, lastMatch_eq_none ha, Option.none_or, ← selected, selected_append_singleton, if_pos hs]

/-- What is stored for `IfKind::Addr(a)`: if some interface of the table at the time of the
    call has address `a`, the selection becomes "that interface's index, same IP family" (and
    so also covers other and later addresses of that family on that interface); if none has,
    it stays `Addr(a)` and matches by address whenever an interface with it appears.  Every
    other kind is stored unchanged. -/
theorem resolve_addr_spec (a : Ip) (intfs : List Iface) :
    (∀ i, intfs.find? (·.ip == a) = some i →
      resolveAddr (.addr a) intfs = if isV4 a then .indexV4 (i.index.getD 0) else .indexV6 (i.index.getD 0)) ∧
    ((∀ i ∈ intfs, i.ip ≠ a) → resolveAddr (.addr a) intfs = .addr a) ∧
    (∀ k, (∀ b, k ≠ .addr b) → resolveAddr k intfs = k) := by
  refine ⟨?_, ?_, ?_⟩
  · intro i h
    simp [resolveAddr, h]
  · intro h
    have : intfs.find? (·.ip == a) = none := by
      rw [List.find?_eq_none]
      intro x hx
      simpa using h x hx
    simp [resolveAddr, this]
  · intro k hk
    cases k with
    | addr b => exact absurd rfl (hk b)
    | _ => rfl

/-- The subnet test is equality under the netmask, octet by octet: same family, and every
    octet of the address ANDed with the mask octet equals the interface address' octet ANDed
    with it. -/
theorem validIp_iff_bytes (addr ifIp mask : Ip) (hm : ifIp.length = mask.length) :
    validIpOnIntf addr ifIp mask = true ↔
      addr.length = ifIp.length ∧ List.zipWith (· &&& ·) addr mask = List.zipWith (· &&& ·) ifIp mask := by
  unfold validIpOnIntf
  rw [Bool.and_eq_true, beq_iff_eq, beq_iff_eq]
  refine and_congr_right fun hl => ?_
  rw [beNat_and addr mask (hl.trans hm), beNat_and ifIp mask hm]
  exact ⟨beNat_inj _ _ (by rw [List.length_zipWith, List.length_zipWith, hl]), congrArg beNat⟩

/-- For a netmask that is a prefix of `p` bits ("/p"), the test says exactly: same family and
    the leading `p` bits of the two addresses agree - the address lies in the interface's
    subnet.  (`bits` = 32 for IPv4, 128 for IPv6.) -/
theorem validIp_iff_same_subnet (addr ifIp mask : Ip) (p : Nat)
    (hl : addr.length = ifIp.length) (hp : p ≤ 8 * ifIp.length)
    (hmask : beNat mask = prefixMask (8 * ifIp.length) p) :
    validIpOnIntf addr ifIp mask = true ↔
      beNat addr / 2 ^ (8 * ifIp.length - p) = beNat ifIp / 2 ^ (8 * ifIp.length - p) := by
  unfold validIpOnIntf
  simp only [hl, beq_self_eq_true, Bool.true_and, beq_iff_eq, hmask]
  rw [and_prefixMask _ p _ hp (hl ▸ beNat_lt_two_pow addr), and_prefixMask _ p _ hp (beNat_lt_two_pow ifIp)]
  exact ⟨Nat.eq_of_mul_eq_mul_right (Nat.two_pow_pos _), fun h => by rw [h]⟩

/-- Different families are never on the same link. -/
theorem validIp_family (addr ifIp mask : Ip) (h : addr.length ≠ ifIp.length) :
    validIpOnIntf addr ifIp mask = false := by
  simp [validIpOnIntf, h]

/-- The addresses of a service used on an interface (for probing, announcing, answering,
    goodbye) are exactly its addresses of the wanted family that lie in the subnet of one of
    the interface's addresses - in the service's order, nothing added. -/
theorem addrsOnIntf_iff (v4 : Bool) (svc : List Ip) (ifAddrs : List (Ip × Ip)) (a : Ip) :
    a ∈ addrsOnIntf v4 svc ifAddrs ↔
      a ∈ svc ∧ isV4 a = v4 ∧ ∃ x ∈ ifAddrs, validIpOnIntf a x.1 x.2 = true := by
  simp [addrsOnIntf, List.mem_filter]

theorem addrsOnIntf_sublist (v4 : Bool) (svc : List Ip) (ifAddrs : List (Ip × Ip)) :
    (addrsOnIntf v4 svc ifAddrs).Sublist svc :=
  List.filter_sublist

/-! ## Non-vacuity -/

def eth0v4 : Iface := { name := [0x65, 0x74, 0x68, 0x30], index := some 2, ip := [192, 168, 1, 10], prefixLen := 24 }
def eth0v6 : Iface := { name := [0x65, 0x74, 0x68, 0x30], index := some 2,
                        ip := [0xfe, 0x80, 0, 0, 0, 0, 0, 0, 0, 0, 0, 0, 0, 0, 0, 1], prefixLen := 64 }
def lo : Iface := { name := [0x6C, 0x6F], index := some 1, ip := [127, 0, 0, 1], prefixLen := 8 }

/-- disable all, enable eth0, disable IPv6: only the IPv4 address of eth0 stays; the order
    matters (enable eth0 first and everything is off) -/
example : selectedMarks [(.all, false), (.name eth0v4.name, true), (.ipv6, false)] [eth0v4, eth0v6, lo]
    = [true, false, false] ∧
    selectedMarks [(.name eth0v4.name, true), (.all, false)] [eth0v4, eth0v6, lo] = [false, false, false] ∧
    selectedMarks [] [eth0v4, eth0v6, lo] = [true, true, true] := by decide

/-- an `Addr` selection made while the interface is present is stored by index and family -/
example : resolveAddr (.addr [192, 168, 1, 10]) [lo, eth0v4] = .indexV4 2 ∧
    resolveAddr (.addr [192, 168, 1, 10]) [lo] = .addr [192, 168, 1, 10] := by decide

/-- 192.168.1.20 is on 192.168.1.10/24, 192.168.2.20 is not; /23 would not take it either,
    /22 does -/
example : validIpOnIntf [192, 168, 1, 20] [192, 168, 1, 10] [255, 255, 255, 0] = true ∧
    validIpOnIntf [192, 168, 2, 20] [192, 168, 1, 10] [255, 255, 255, 0] = false ∧
    validIpOnIntf [192, 168, 2, 20] [192, 168, 1, 10] [255, 255, 254, 0] = false ∧
    validIpOnIntf [192, 168, 2, 20] [192, 168, 1, 10] [255, 255, 252, 0] = true ∧
    beNat [255, 255, 255, 0] = prefixMask 32 24 := by decide

example : addrsOnIntf true [[192, 168, 1, 20], [10, 0, 0, 1], eth0v6.ip]
    [([192, 168, 1, 10], [255, 255, 255, 0])] = [[192, 168, 1, 20]] := by decide

/-! ## The daemon-level monitor's notion of "enabled" -/

open Mdns.Driver.MonLink in
/-- What the monitor computes: interface index `idx` has an enabled address (of family `fam`,
    if given) exactly if the table holds an address with that index (and family) whose LAST
    matching selection in call order enables it - or that no selection matches. -/
theorem hasEnabled_iff (table : List Iface) (sels : List Selection) (idx : Nat) (fam : Option Bool) :
    hasEnabled table sels idx fam = true ↔
      ∃ i ∈ table, i.index = some idx ∧ (lastMatch sels i).getD true = true ∧
        (∀ v4, fam = some v4 → isV4ip i.ip = v4) := by
  cases fam <;> simp [hasEnabled, selected, and_assoc]

open Mdns.Driver.MonLink in
/-- `disable_interface(All)` as the last call leaves no interface enabled, whatever was
    selected before. -/
theorem disable_all_kills (table : List Iface) (sels : List Selection) (idx : Nat) (fam : Option Bool) :
    hasEnabled table (sels ++ [(.all, false)]) idx fam = false := by
  have : ∀ i, selected (sels ++ [(.all, false)]) i = false := fun i => selected_append_singleton sels _ i
  unfold hasEnabled
  simp [this]

open Mdns.Driver.MonLink in
/-- A call that does not match any address of an interface changes nothing for it. -/
theorem untouched_interface_stays (table : List Iface) (sels : List Selection) (s : Selection) (idx : Nat)
    (fam : Option Bool) (h : ∀ i ∈ table, i.index = some idx → s.1.matches i = false) :
    hasEnabled table (sels ++ [s]) idx fam = hasEnabled table sels idx fam := by
  unfold hasEnabled
  rw [Bool.eq_iff_iff, List.any_eq_true, List.any_eq_true]
  refine exists_congr fun i => and_congr_right fun hi => ?_
  cases hx : i.index == some idx
  · exact Iff.rfl
  · rw [selected_append_singleton, h i hi (beq_iff_eq.mp hx), if_neg Bool.false_ne_true]

/-- **The newest word on a kind is the only one that counts**: of two consecutive selections of
    the same kind only the second has an effect - so disabling and enabling again leaves every
    interface as a single enable would (nothing of the disable lingers), and repeating a
    selection changes nothing. -/
theorem same_kind_overrides (sels : List Selection) (k : IfKind) (b1 b2 : Bool) (i : Iface) :
    selected (sels ++ [(k, b1), (k, b2)]) i = selected (sels ++ [(k, b2)]) i := by
  have e : sels ++ [(k, b1), (k, b2)] = sels ++ [(k, b1)] ++ [(k, b2)] := (List.append_assoc sels [(k, b1)] [(k, b2)]).symm
  rw [e, selected_append_singleton, selected_append_singleton, selected_append_singleton]
  split <;> rfl

/-- ... for the whole interface table, in the code's own loop -/
theorem same_kind_overrides_marks (sels : List Selection) (k : IfKind) (b1 b2 : Bool) (intfs : List Iface) :
    selectedMarks (sels ++ [(k, b1), (k, b2)]) intfs = selectedMarks (sels ++ [(k, b2)]) intfs := by
  rw [selected_iff, selected_iff]
  exact List.map_congr_left fun i _ => same_kind_overrides sels k b1 b2 i

/-- **A selection speaks only for the interfaces it matches**: whatever was selected before, an
    interface the new selection does not match keeps its verdict, and one it matches gets the
    new verdict. -/
theorem new_selection_effect (sels : List Selection) (s : Selection) (i : Iface) :
    selected (sels ++ [s]) i = if s.1.matches i then s.2 else selected sels i :=
  selected_append_singleton sels s i

/-- a dual-stack eth0 and an IPv4-only eth1: disabling IPv4 leaves eth0 its IPv6 address and
    kills eth1; enabling eth1 by name afterwards revives it -/
example :
    let t : List Iface := [
      { name := [0x65], index := some 2, ip := [192, 168, 1, 10], prefixLen := 24 },
      { name := [0x65], index := some 2, ip := List.replicate 16 1, prefixLen := 64 },
      { name := [0x66], index := some 3, ip := [10, 0, 0, 5], prefixLen := 8 }]
    Mdns.Driver.MonLink.hasEnabled t [(.ipv4, false)] 2 none = true ∧
    Mdns.Driver.MonLink.hasEnabled t [(.ipv4, false)] 2 (some true) = false ∧
    Mdns.Driver.MonLink.hasEnabled t [(.ipv4, false)] 3 none = false ∧
    Mdns.Driver.MonLink.hasEnabled t [(.ipv4, false), (.name [0x66], true)] 3 none = true := by
  decide

end Mdns.Props.C18
