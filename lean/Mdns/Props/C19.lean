import Mdns.Lemmas.Delay
import Mdns.Lemmas.ClientSchedule
import Mdns.Lemmas.ClientHostSchedule
import Mdns.Props.C13
/-
  C19  Repeated queries back off 1 s, 2 s, 4 s ... capped at one hour - the arithmetic.

  Models: `Mdns/Model/Delay.lean` (the delay doubling of `exec_command_browse` /
  `exec_command_resolve_hostname`), `Mdns/Model/Client.lean` (one schedule per browsed type /
  searched host, the delays carried by the queued retransmissions, the chain of gaps over whole
  histories; compared with the real daemon per iteration); scheduler fragment: `Props/C19Daemon.lean`.
-/
namespace Mdns.Props.C19
open Mdns Mdns.Delay

/-- The delay sequence: the first repetition comes after 1 s, each following delay is twice
    the previous one, capped at 3600 s. -/
theorem delay_seq : delay 0 = 1 ∧ ∀ n, delay (n + 1) = min (2 * delay n) 3600 := by
  refine ⟨rfl, fun n => ?_⟩
  simp only [delay, nextDelay, MAX_DELAY]
  omega

/-- Closed form: the `n`-th delay is `2^n` seconds capped at one hour: 1, 2, 4, ..., 2048,
    3600, 3600, ... -/
theorem delay_closed_form (n : Nat) : delay n = min (2 ^ n) 3600 := delay_closed n

/-- The delay is never 0 and never more than an hour ... -/
theorem delay_bounds (n : Nat) : 1 ≤ delay n ∧ delay n ≤ 3600 := ⟨delay_pos n, delay_le n⟩

/-- ... it never shrinks ... -/
theorem delay_mono (m n : Nat) (h : m ≤ n) : delay m ≤ delay n := by
  rw [delay_closed, delay_closed]
  have : 2 ^ m ≤ 2 ^ n := Nat.pow_le_pow_right (by omega) h
  simp only [MAX_DELAY]
  omega

/-- ... it doubles exactly up to 2048 s and is one hour from the 12th repetition on. -/
theorem delay_cap (n : Nat) : (n ≤ 11 → delay n = 2 ^ n) ∧ (12 ≤ n → delay n = 3600) := by
  rw [delay_closed]
  constructor
  · intro h
    have : 2 ^ n ≤ 2 ^ 11 := Nat.pow_le_pow_right (by omega) h
    simp only [MAX_DELAY]
    omega
  · intro h
    have : 2 ^ 12 ≤ 2 ^ n := Nat.pow_le_pow_right (by omega) h
    simp only [MAX_DELAY]
    omega

/-- The code's arithmetic (`u32` multiplications included) run `k` times from the initial
    delay 1: it never overflows and the gaps between consecutive queries are
    `1000 * delay 0, 1000 * delay 1, ...` milliseconds. -/
theorem gaps_spec (k : Nat) : gaps k = .ok ((List.range k).map fun i => delay i * 1000) := by
  have := gapsFrom_delay k 0
  simpa [gaps, delay] using this

/-- no step of the sequence panics or fails -/
theorem gaps_no_panic (k : Nat) : gaps k ≠ .panic ∧ gaps k ≠ .err := by
  rw [gaps_spec]
  simp

/-- seconds between the first query of a search and its query number `n` (sum of the first `n`
    delays) -/
def offset : Nat → Nat
  | 0 => 0
  | n + 1 => offset n + delay n

/-- **The instants themselves**: query number `n` of a search leaves `2^n - 1` seconds after the
    first one (0, 1, 3, 7, ... 4095 s) for `n ≤ 12`, and one hour after its predecessor from then
    on: `4095 + 3600 (n - 12)` seconds. -/
theorem offset_closed_form (n : Nat) :
    (n ≤ 12 → offset n + 1 = 2 ^ n) ∧ (12 ≤ n → offset n = 4095 + 3600 * (n - 12)) := by
  induction n with
  | zero => simp [offset]
  | succ n ih =>
    have hc := delay_cap n
    constructor
    · intro h
      have h1 := ih.1 (by omega)
      have h2 := hc.1 (by omega)
      simp only [offset, Nat.pow_succ]
      omega
    · intro h
      simp only [offset]
      by_cases h12 : n = 11
      · subst h12
        have h1 := ih.1 (by omega)
        have h2 := hc.1 (by omega)
        omega
      · have h1 := ih.2 (by omega)
        have h2 := hc.2 (by omega)
        omega

/-- **The rate is bounded for ever**: within any `T` seconds from its first query a search has
    sent at most `13 + T / 3600` queries - twelve doublings, then one per hour. -/
theorem queries_within (n T : Nat) (h : offset n ≤ T) : n + 1 ≤ 13 + T / 3600 := by
  by_cases h12 : n ≤ 12
  · omega
  · have := (offset_closed_form n).2 (by omega)
    have : 3600 * (n - 12) ≤ T := by omega
    have : n - 12 ≤ T / 3600 := by
      rw [Nat.le_div_iff_mul_le (by omega)]; omega
    omega

example : (List.range 15).map offset = [0, 1, 3, 7, 15, 31, 63, 127, 255, 511, 1023, 2047, 4095, 7695, 11295] := by
  decide

example : (List.range 15).map delay = [1, 2, 4, 8, 16, 32, 64, 128, 256, 512, 1024, 2048, 3600, 3600, 3600] := by
  decide

example : gaps 4 = .ok [1000, 2000, 4000, 8000] := by decide

/-- a `next_delay` the sequence never reaches would overflow the `u32` multiplication -/
example : step 4294968 = .panic := by decide

section ClientModel
open Mdns.Client

/-- **One schedule per search**, after ANY history from the start of the
    daemon - any times, packets, commands, browse / resolve_hostname called again and again, in
    any letter case: the queue of retransmissions holds at most one entry per browsed type and
    at most one per host name compared without letter case.  (A second `browse` of a type or a
    second `resolve_hostname` of a name - in whatever spelling - replaces the queued
    retransmission instead of adding one.) -/
theorem one_schedule_client (t0 : Nat) (intfs : List Intf) (h : List (Nat × List Packet × List Command)) :
    (∀ ty, ((run (init t0 intfs) h).1.reruns.filter (isBrowseOf ty)).length ≤ 1) ∧
    (∀ key, ((run (init t0 intfs) h).1.reruns.filter (isResolveOf key)).length ≤ 1) := by
  have := run_invariant (Inv := fun s => OneEachC s.reruns) (Ok := fun _ => True) h (init t0 intfs)
    OneEachC.nil (fun _ _ => trivial) fun s now pkts cmds hs _ => oneEach_iter s now pkts cmds hs
  refine ⟨fun ty => ?_, fun key => ?_⟩
  · rw [List.filter_congr fun r _ => isBrowseOf_iff ty r]
    exact this (false, ty)
  · rw [List.filter_congr fun r _ => isResolveOf_iff key r]
    exact this (true, key)

theorem one_schedule_iter (s : State) (now : Nat) (pkts : List Packet) (cmds : List Command) (h : OneEachC s.reruns) :
    OneEachC (iter s now pkts cmds).1.reruns := oneEach_iter s now pkts cmds h

/-- **The delay carried by a queued retransmission is between 1 s and one hour**, after ANY
    history from the start of the daemon -/
theorem carried_delay_in_range (t0 : Nat) (intfs : List Intf) (h : List (Nat × List Packet × List Command)) (r : Rerun)
    (hr : r ∈ (run (init t0 intfs) h).1.reruns) :
    (∀ ty d ch, r.cmd = .browse ty d ch → 1 ≤ d ∧ d ≤ 3600) ∧
    (∀ host d ch, r.cmd = .resolveHost host d ch → 1 ≤ d ∧ d ≤ 3600) := by
  have := C13.delays_ok_run t0 intfs h r hr
  unfold DelayOk at this
  exact ⟨fun ty d ch hc => by rw [hc] at this; exact this, fun host d ch hc => by rw [hc] at this; exact this⟩

/-- **... and it doubles at each run, capped at 3600**: running the queued retransmission of
    a browse with delay `d` at `now` sends `[(ty, PTR)]` once and queues the next run `d` seconds
    later carrying `min (2 d) 3600` -/
theorem browse_rerun_doubles (s : State) (now : Nat) (ty : BList) (d ch : Nat) :
    (execRerun s now (.browse ty d ch)).1.reruns = s.reruns ++ [⟨now + d * 1000, .browse ty (min (d * 2) 3600) ch⟩] ∧
    (execRerun s now (.browse ty d ch)).2 = [.event ch .started, sendQuery s.cache now [(ty, 12)]] :=
  execRerun_browse s now ty d ch

/-- the same for a hostname search that is still open and whose deadline allows another run -/
theorem resolve_rerun_doubles (s : State) (now : Nat) (host : BList) (d ch : Nat)
    (hopen : s.resolvers.any (·.1 == lower host) = true) (hdl : withinDeadline s (lower host) (now + d * 1000) = true) :
    (execRerun s now (.resolveHost host d ch)).1.reruns =
      s.reruns ++ [⟨now + d * 1000, .resolveHost host (min (d * 2) 3600) ch⟩] ∧
    (execRerun s now (.resolveHost host d ch)).2 = [.event ch .hstarted, sendQuery s.cache now [(host, 1), (host, 28)]] := by
  simpa [hopen, hdl, Sched.nextDelay, Sched.MAX_DELAY] using execRerun_resolveHost s now host d ch

/-- **No overflow however long the search runs.**  For every retransmission queued after
    ANY history: the two `u32` multiplications of the Rust code (`next_delay * 1000`,
    `next_delay * 2`) do not overflow when it is run (`Delay.step` is the arithmetic with its
    overflow checks), the gap is at most 3 600 000 ms and the doubled delay at most 3600 s. -/
theorem schedule_arith_safe (t0 : Nat) (intfs : List Intf) (h : List (Nat × List Packet × List Command)) (r : Rerun)
    (hr : r ∈ (run (init t0 intfs) h).1.reruns) (d : Nat)
    (hd : (∃ ty ch, r.cmd = .browse ty d ch) ∨ ∃ host ch, r.cmd = .resolveHost host d ch) :
    Delay.step d = .ok (d * 1000, Sched.nextDelay d) ∧ d * 1000 ≤ 3600000 ∧ d * 2 ≤ 7200 ∧ Sched.nextDelay d ≤ 3600 := by
  have hr' := carried_delay_in_range t0 intfs h r hr
  have hb : 1 ≤ d ∧ d ≤ 3600 := by
    rcases hd with ⟨ty, ch, hc⟩ | ⟨host, ch, hc⟩
    · exact hr'.1 ty d ch hc
    · exact hr'.2 host d ch hc
  exact ⟨Delay.step_ok d hb.2, by omega, by omega, (nextDelay_le d hb.1).2⟩

/-- **... and the due time stays within `u64`**: the retransmission a run queues at `now` is
    due at most 3 600 000 ms later - with the clock below 2^63 ms there is no `u64` overflow -/
theorem due_time_bounded (s : State) (now : Nat) (ty : BList) (d ch : Nat) (hd : d ≤ 3600) (hnow : now < 2 ^ 63) :
    ∀ r ∈ (execRerun { s with reruns := [] } now (.browse ty d ch)).1.reruns, r.next ≤ now + 3600000 ∧ r.next < 2 ^ 64 := by
  intro r hr
  simp only [execRerun, execBrowse, if_true, Bool.false_eq_true, if_false, addRerun, List.nil_append, List.mem_singleton] at hr
  subst hr
  simp only
  omega

/-- the sum of the delays number `k`, ..., `k + n - 1` of the sequence (seconds); `delaySum 0 n` is
    the `offset n` of the arithmetic part above, summed from the other end -/
def delaySum (k : Nat) : Nat → Nat
  | 0 => 0
  | n + 1 => Delay.delay k + delaySum (k + 1) n

/-- **The schedule starts.**  An iteration at `now` that processes `browse(ty)` on `ch` (after any
    commands `pre`; the commands after it neither browse nor stop `ty`): the query of the call is
    number 0, at `now`; at the end of the iteration exactly one retransmission of `ty` is queued,
    due 1 s later and carrying the delay 2 s. -/
theorem browse_schedule_starts (s : State) (now : Nat) (pkts : List Packet) (pre : List Command) (ty : BList) (ch : Nat)
    (post : List Command) (h1 : OneEachC s.reruns) (hc : post.all (fun c => !touchesType ty c) = true) :
    BrowseSched ty ch now 0 (iter s now pkts (pre ++ .browse ty ch false :: post)).1 :=
  iter_requeued (false, ty) _ s now pkts pre _ post hc (execBrowse_requeues _ now ty 1 false ch)
    (fun r hr => by rw [List.mem_singleton.mp hr]; rfl)
    (List.forall_mem_singleton.mpr (by show now < now + 1 * 1000; omega))

/-- **One step of the schedule**: while the browse is neither stopped
    nor started again, an iteration before the due time changes nothing; the first iteration at
    or after the due time sends `[(ty, PTR)]` and queues the next retransmission `delay (k + 1)`
    seconds later with the next delay of the sequence 1, 2, 4, ..., 2048, 3600, 3600, ... -/
theorem browse_schedule_step (ty : BList) (ch t k : Nat) (s : State) (now : Nat) (pkts : List Packet) (cmds : List Command)
    (h1 : OneEachC s.reruns) (hs : BrowseSched ty ch t k s) (hc : cmds.all (fun c => !touchesType ty c) = true) :
    (now < t + Delay.delay k * 1000 → BrowseSched ty ch t k (iter s now pkts cmds).1) ∧
    (t + Delay.delay k * 1000 ≤ now → BrowseSched ty ch now (k + 1) (iter s now pkts cmds).1 ∧
      ∃ known, Out.query [(ty, 12)] known ∈ (iter s now pkts cmds).2) := by
  refine ⟨fun hlt => iter_waiting (false, ty) s now pkts cmds hc hs (List.forall_mem_singleton.mpr hlt), fun hdue => ?_⟩
  obtain ⟨st', h0, _, ho, hf⟩ := iter_due (false, ty) s now pkts cmds _ hc hs hdue
  obtain ⟨hqueue, hout⟩ := execRerun_browse st' now ty (Delay.delay (k + 1)) ch
  rw [h0, List.nil_append] at hqueue
  have hpos := Delay.delay_pos (k + 1)
  rw [hqueue] at hf
  refine ⟨(hf fun y hy => ?_).trans ?_, _, ho _ (by rw [hout]; exact List.mem_cons_of_mem _ List.mem_cons_self)⟩
  · rw [List.mem_singleton.mp hy]
    show now < now + _
    omega
  · simp [skey]
    -- the delay carried on: `delay (k + 2)` is `nextDelay (delay (k + 1))` by definition
    exact nextDelay_eq (Delay.delay (k + 1))

/-- **The chain of gaps.**  From a state in which the query number `k` of the browse of `ty` went
    out at `t`, run ANY history whose commands neither browse nor stop `ty` (iterations at any
    times, arbitrarily late, any packets, any other searches): afterwards the schedule is at
    some query number `k + n`, sent at a time `t'` with
    `t' ≥ t + 1000 * (delay k + ... + delay (k + n - 1))` - every gap between two consecutive
    schedule queries of one search is at least the delay of the sequence 1 s, 2 s, 4 s, ...,
    2048 s, 3600 s, 3600 s, ... -/
theorem browse_schedule_chain (ty : BList) (ch : Nat) : ∀ (h : List (Nat × List Packet × List Command)) (s : State) (t k : Nat),
    OneEachC s.reruns → BrowseSched ty ch t k s → (∀ it ∈ h, it.2.2.all (fun c => !touchesType ty c) = true) →
    ∃ n t', BrowseSched ty ch t' (k + n) (run s h).1 ∧ t + 1000 * delaySum k n ≤ t'
  | [], s, t, k, _, hs, _ => ⟨0, t, by simpa [run] using hs, by simp [delaySum]⟩
  | (now, pkts, cmds) :: rest, s, t, k, h1, hs, hc => by
    have hstep := browse_schedule_step ty ch t k s now pkts cmds h1 hs (hc _ List.mem_cons_self)
    have h1' := oneEach_iter s now pkts cmds h1
    by_cases hdue : t + Delay.delay k * 1000 ≤ now
    · obtain ⟨n, t', hn, ht⟩ := browse_schedule_chain ty ch rest _ now (k + 1) h1' (hstep.2 hdue).1
        (fun it hit => hc it (List.mem_cons_of_mem _ hit))
      refine ⟨n + 1, t', ?_, ?_⟩
      · simp only [run]
        have : k + (n + 1) = k + 1 + n := by omega
        rw [this]
        exact hn
      · simp only [delaySum]
        omega
    · obtain ⟨n, t', hn, ht⟩ := browse_schedule_chain ty ch rest _ t k h1' (hstep.1 (by omega))
        (fun it hit => hc it (List.mem_cons_of_mem _ hit))
      exact ⟨n, t', by simpa [run] using hn, ht⟩


/-- **The schedule of a hostname search starts.**  An iteration at `now` that processes
    `resolve_hostname(host, timeout)` on `ch` (after any commands `pre`; the commands after it
    neither search nor stop the name, in whatever letter case): the query of the call is number 0,
    at `now`.  With no time-out, or one of more than a second, exactly one retransmission of the
    name is queued at the end of the iteration, due 1 s later and carrying the delay 2 s, and the
    search is open under the lower-cased name with the deadline `now + timeout` (`HostSched`).
    With a time-out of at most a second no retransmission is queued at all (`HostEnded`): the
    first one would not come before the deadline. -/
theorem resolve_schedule_starts (s : State) (now : Nat) (pkts : List Packet) (pre : List Command) (host : BList) (ch : Nat)
    (timeout : Option Nat) (post : List Command) (h1 : OneEachC s.reruns)
    (hc : post.all (fun c => !touchesHost (lower host) c) = true) :
    ((∀ t, timeout = some t → 1000 < t) →
      HostSched host ch (timeout.map (now + ·)) now 0 (iter s now pkts (pre ++ .resolveHost host ch timeout :: post)).1) ∧
    ((∃ t, timeout = some t ∧ t ≤ 1000) →
      HostEnded host (iter s now pkts (pre ++ .resolveHost host ch timeout :: post)).1) := by
  have hreq := execResolveHost_requeues (runCommands (preCommands s now pkts) now pre).1 now host 1 ch timeout
  constructor
  · intro hlong
    have hw : ((timeout.map (now + ·)).map fun t => decide (now + 1 * 1000 < t)).getD true = true := by
      cases timeout with
      | none => rfl
      | some t => have := hlong t rfl; simp; omega
    rw [hw, if_pos rfl] at hreq
    refine ⟨iter_requeued (true, lower host) _ s now pkts pre _ post hc hreq
      (fun r hr => by rw [List.mem_singleton.mp hr]; rfl)
      (List.forall_mem_singleton.mpr (by show now < now + 1 * 1000; omega)), ?_, ?_⟩
    · rw [(iter_split s now pkts pre _ post).1, (same_tail _ now post).resolvers,
        resolvers_filter_runCommands (lower host) now post _ (not_touches (K := (true, lower host)) hc)]
      show (execResolveHost _ now false host 1 ch timeout).1.resolvers.filter _ = _
      rw [execResolveHost_new_resolvers]
      simp only [List.filter_cons, beq_self_eq_true, if_true]
      exact congrArg _ (Sched.filter_not_self (fun q : BList × Nat × Option Nat => q.1 == lower host) _)
    · intro d hd
      cases timeout with
      | none => cases hd
      | some t =>
        have := hlong t rfl
        simp only [Option.map_some, Option.some.injEq] at hd
        subst hd
        show now + Delay.delay 0 * 1000 < now + t
        simp only [Delay.delay]
        omega
  · intro ⟨t, ht, hle⟩
    have hw : ((timeout.map (now + ·)).map fun t => decide (now + 1 * 1000 < t)).getD true = false := by
      rw [ht]
      simp
      omega
    rw [hw, if_neg Bool.false_ne_true] at hreq
    exact iter_requeued (true, lower host) _ s now pkts pre _ post hc hreq nofun nofun

/-- **One step of the schedule of a hostname search.**  While the name
    is neither searched again nor stopped, an iteration before the due time changes nothing.  The
    first iteration at or after the due time: (1) if the next instant `now + delay (k+1)` s still
    lies before the deadline (or there is none), it sends `[(host, A), (host, AAAA)]` and queues
    the next retransmission `delay (k + 1)` seconds later with the next delay of the sequence
    1, 2, 4, ..., 2048, 3600, 3600, ...; (2) if the deadline has not been reached but the next
    instant would not come before it, it sends the query and the schedule is over; (3) if the
    deadline has been reached the search has timed out and the schedule is over. -/
theorem resolve_schedule_step (host : BList) (ch : Nat) (dl : Option Nat) (t k : Nat) (s : State) (now : Nat)
    (pkts : List Packet) (cmds : List Command) (h1 : OneEachC s.reruns) (hs : HostSched host ch dl t k s)
    (hc : cmds.all (fun c => !touchesHost (lower host) c) = true) :
    (now < t + Delay.delay k * 1000 → HostSched host ch dl t k (iter s now pkts cmds).1) ∧
    (t + Delay.delay k * 1000 ≤ now →
      ((∀ d, dl = some d → now + Delay.delay (k + 1) * 1000 < d) →
        HostSched host ch dl now (k + 1) (iter s now pkts cmds).1 ∧
        ∃ known, Out.query [(host, 1), (host, 28)] known ∈ (iter s now pkts cmds).2) ∧
      (∀ d, dl = some d → now < d → d ≤ now + Delay.delay (k + 1) * 1000 →
        HostEnded host (iter s now pkts cmds).1 ∧
        ∃ known, Out.query [(host, 1), (host, 28)] known ∈ (iter s now pkts cmds).2) ∧
      (∀ d, dl = some d → d ≤ now → HostEnded host (iter s now pkts cmds).1)) := by
  have hK := not_touches (K := (true, lower host)) hc
  have hpre := preCommands_search now pkts hs.search
  have hres' := resolvers_filter_runCommands (lower host) now cmds (preCommands s now pkts) hK
  have hres : (iter s now pkts cmds).1.resolvers.filter (·.1 == lower host) = _ :=
    (same_iter s now pkts cmds).resolvers.symm ▸ hres'
  refine ⟨fun hlt => ?_, fun hdue => ?_⟩
  · exact ⟨iter_waiting (true, lower host) s now pkts cmds hc hs.queue (List.forall_mem_singleton.mpr hlt),
      hres.trans (hpre.1 fun d hd => by have := hs.before d hd; omega), hs.before⟩
  · obtain ⟨st', h0, hr, ho, hf⟩ := iter_due (true, lower host) s now pkts cmds _ hc hs.queue hdue
    obtain ⟨hqueue, hout⟩ := execRerun_resolveHost st' now host (Delay.delay (k + 1)) ch
    rw [h0, List.nil_append] at hqueue
    have hsent : st'.resolvers.any (·.1 == lower host) = true →
        sendQuery st'.cache now [(host, 1), (host, 28)] ∈ (iter s now pkts cmds).2 :=
      fun ha => ho _ (by rw [hout, if_pos ha]; exact List.mem_cons_of_mem _ List.mem_cons_self)
    have hpos := Delay.delay_pos (k + 1)
    rw [← hr] at hres'
    rw [hqueue] at hf
    have hopen : (∀ d, dl = some d → now < d) → st'.resolvers.any (·.1 == lower host) = true ∧
        withinDeadline st' (lower host) (now + Delay.delay (k + 1) * 1000) =
          (dl.map fun t => decide (now + Delay.delay (k + 1) * 1000 < t)).getD true :=
      fun hlt => withinDeadline_of_filter (hres'.trans (hpre.1 hlt)) _
    unfold HostEnded
    refine ⟨fun hbefore => ?_, fun d hd hlt hle => ?_, fun d hd hle => ?_⟩
    · obtain ⟨ha, hw⟩ := hopen fun d hd => by have := hbefore d hd; omega
      have hw' : withinDeadline st' (lower host) (now + Delay.delay (k + 1) * 1000) = true := by
        rw [hw]
        cases dl with
        | none => rfl
        | some d => simpa using hbefore d rfl
      rw [ha, hw'] at hf
      refine ⟨⟨?_, hres.trans (hpre.1 fun d hd => by have := hbefore d hd; omega), hbefore⟩, _, hsent ha⟩
      rw [hf fun y hy => by rw [List.mem_singleton.mp hy]; show now < now + _; omega]
      simp [skey]
      exact nextDelay_eq (Delay.delay (k + 1))
    · obtain ⟨ha, hw⟩ := hopen fun d' hd' => by rw [hd] at hd'; cases hd'; exact hlt
      have hw' : withinDeadline st' (lower host) (now + Delay.delay (k + 1) * 1000) = false := by
        rw [hw, hd]
        simp only [Option.map_some, Option.getD_some, decide_eq_false_iff_not]
        omega
      rw [ha, hw'] at hf
      exact ⟨hf nofun, _, hsent ha⟩
    · rw [search_closed (hres'.trans (hpre.2 ⟨d, hd, hle⟩))] at hf
      exact hf nofun

/-- a schedule that is over stays over while the name is not searched again -/
theorem resolve_schedule_stays_over (host : BList) : ∀ (h : List (Nat × List Packet × List Command)) (s : State),
    HostEnded host s → (∀ it ∈ h, it.2.2.all (fun c => !touchesHost (lower host) c) = true) → HostEnded host (run s h).1
  | [], _, hs, _ => hs
  | (now, pkts, cmds) :: rest, s, hs, hc => by
    simp only [run]
    exact resolve_schedule_stays_over host rest _
      (iter_waiting (true, lower host) s now pkts cmds (hc _ List.mem_cons_self) hs nofun)
      (fun it hit => hc it (List.mem_cons_of_mem _ hit))

/-- **The chain of gaps of a hostname search, up to its deadline.**  From a state in which the
    query number `k` of the search for `host` went out at `t` (`HostSched`: its retransmission
    queued for `t + delay k` s, before the deadline `dl`, the search open), run ANY history whose
    commands neither search nor stop the name (iterations at any times, arbitrarily late, any
    packets, any other searches).  Afterwards there are `n` and `t'` - the schedule got as far as
    query number `k + n`, sent at `t'`, with `t' ≥ t + 1000 * (delay k + ... + delay (k+n-1))`:
    every gap is at least the delay of the sequence 1 s, 2 s, 4 s, ..., 3600 s - such that
    * either the schedule is still running at that number (and the search open), or
    * the schedule is over, and then ONLY because of the deadline `d`: the next query after number
      `k + n` would not have come before it (`d ≤ t' + delay (k+n)` s: the cut of
      `exec_command_resolve_hostname`), or some iteration of the history came at or after the
      deadline (the search timed out). -/
theorem resolve_schedule_chain (host : BList) (ch : Nat) (dl : Option Nat) :
    ∀ (h : List (Nat × List Packet × List Command)) (s : State) (t k : Nat),
    OneEachC s.reruns → HostSched host ch dl t k s →
    (∀ it ∈ h, it.2.2.all (fun c => !touchesHost (lower host) c) = true) →
    ∃ n t', t + 1000 * delaySum k n ≤ t' ∧
      (HostSched host ch dl t' (k + n) (run s h).1 ∨
       (HostEnded host (run s h).1 ∧
        ∃ d, dl = some d ∧ (d ≤ t' + Delay.delay (k + n) * 1000 ∨ ∃ it ∈ h, d ≤ it.1)))
  | [], s, t, k, _, hs, _ => ⟨0, t, by simp [delaySum], Or.inl (by simpa [run] using hs)⟩
  | (now, pkts, cmds) :: rest, s, t, k, h1, hs, hc => by
    have hstep := resolve_schedule_step host ch dl t k s now pkts cmds h1 hs (hc _ List.mem_cons_self)
    have h1' := oneEach_iter s now pkts cmds h1
    have hc' : ∀ it ∈ rest, it.2.2.all (fun c => !touchesHost (lower host) c) = true :=
      fun it hit => hc it (List.mem_cons_of_mem _ hit)
    have hrun : (run s ((now, pkts, cmds) :: rest)).1 = (run (iter s now pkts cmds).1 rest).1 := by simp only [run]
    rw [hrun]
    -- what the rest of the history yields holds of the whole history
    have lift : ∀ {k' t'} {x : State}, (HostSched host ch dl t' k' x ∨
          (HostEnded host x ∧ ∃ d, dl = some d ∧ (d ≤ t' + Delay.delay k' * 1000 ∨ ∃ it ∈ rest, d ≤ it.1))) →
        HostSched host ch dl t' k' x ∨
          (HostEnded host x ∧
            ∃ d, dl = some d ∧ (d ≤ t' + Delay.delay k' * 1000 ∨ ∃ it ∈ (now, pkts, cmds) :: rest, d ≤ it.1)) := by
      intro k' t' x hres
      rcases hres with hres | ⟨hend, d, hd, hor | ⟨it, hit, hle⟩⟩
      · exact Or.inl hres
      · exact Or.inr ⟨hend, d, hd, Or.inl hor⟩
      · exact Or.inr ⟨hend, d, hd, Or.inr ⟨it, List.mem_cons_of_mem _ hit, hle⟩⟩
    by_cases hdue : t + Delay.delay k * 1000 ≤ now
    · obtain ⟨hgo, hcut, hout⟩ := hstep.2 hdue
      by_cases hwithin : ∀ d, dl = some d → now + Delay.delay (k + 1) * 1000 < d
      · -- the query goes out, the next one is queued
        obtain ⟨n, t', ht, hres⟩ := resolve_schedule_chain host ch dl rest _ now (k + 1) h1' (hgo hwithin).1 hc'
        refine ⟨n + 1, t', ?_, ?_⟩
        · simp only [delaySum]
          omega
        · rw [show k + (n + 1) = k + 1 + n by omega]
          exact lift hres
      · -- there is a deadline `d` with `d ≤ now + delay (k+1)`
        obtain ⟨d, hd, hle⟩ : ∃ d, dl = some d ∧ d ≤ now + Delay.delay (k + 1) * 1000 := by
          cases dl with
          | none => exact absurd (fun d hd => by cases hd) hwithin
          | some d => exact ⟨d, rfl, Nat.le_of_not_lt fun hlt => hwithin fun d' hd' => by cases hd'; exact hlt⟩
        by_cases hreached : d ≤ now
        · -- timed out
          exact ⟨0, t, by simp [delaySum], Or.inr ⟨resolve_schedule_stays_over host rest _ (hout d hd hreached) hc',
            d, hd, Or.inr ⟨(now, pkts, cmds), List.mem_cons_self, hreached⟩⟩⟩
        · -- the last query goes out, the next one would not come before the deadline
          exact ⟨1, now, by simp [delaySum]; omega,
            Or.inr ⟨resolve_schedule_stays_over host rest _ (hcut d hd (by omega) hle).1 hc', d, hd, Or.inl hle⟩⟩
    · obtain ⟨n, t', ht, hres⟩ := resolve_schedule_chain host ch dl rest _ t k h1' (hstep.1 (by omega)) hc'
      exact ⟨n, t', ht, lift hres⟩

/-- **From the call.**  `resolve_hostname(host, timeout)` with no time-out or one of more than a
    second, processed at `now` in ANY state with one schedule per search (every state reachable
    from the fresh daemon: `one_schedule_client`), followed by ANY history that neither searches
    nor stops the name: the schedule got as far as some query number `n`, sent at
    `t' ≥ now + 1000 * (delay 0 + ... + delay (n-1))`, and it is either still running there or over
    because of the deadline `now + timeout` only. -/
theorem resolve_schedule_from_call (s : State) (now : Nat) (pkts : List Packet) (pre : List Command) (host : BList) (ch : Nat)
    (timeout : Option Nat) (post : List Command) (h : List (Nat × List Packet × List Command)) (h1 : OneEachC s.reruns)
    (hlong : ∀ t, timeout = some t → 1000 < t)
    (hc : post.all (fun c => !touchesHost (lower host) c) = true)
    (hh : ∀ it ∈ h, it.2.2.all (fun c => !touchesHost (lower host) c) = true) :
    ∃ n t', now + 1000 * delaySum 0 n ≤ t' ∧
      (HostSched host ch (timeout.map (now + ·)) t' n
          (run (iter s now pkts (pre ++ .resolveHost host ch timeout :: post)).1 h).1 ∨
       (HostEnded host (run (iter s now pkts (pre ++ .resolveHost host ch timeout :: post)).1 h).1 ∧
        ∃ d, timeout.map (now + ·) = some d ∧ (d ≤ t' + Delay.delay n * 1000 ∨ ∃ it ∈ h, d ≤ it.1))) := by
  have hstart := (resolve_schedule_starts s now pkts pre host ch timeout post h1 hc).1 hlong
  have hone := oneEach_iter s now pkts (pre ++ .resolveHost host ch timeout :: post) h1
  obtain ⟨n, t', ht, hres⟩ := resolve_schedule_chain host ch (timeout.map (now + ·)) h _ now 0 hone hstart hh
  rw [Nat.zero_add] at hres
  exact ⟨n, t', ht, hres⟩

/-! non-vacuity: an unanswered browse, iterations at the requested wake-ups: the PTR queries of the
    schedule go out at 1000, 2000, 4000, 8000, 16000 (gaps 1, 2, 4, 8 s) -/
example :
    ((run (init 1000 [C03.eth0])
        [(1000, [], [.browse C03.ty 1 false]), (2000, [], []), (4000, [], []), (6000, [], []), (8000, [], []),
         (16000, [], [])]).2.filterMap
        fun o => (match o.2 with
          | .query [(n, 12)] _ => if n == C03.ty then some o.1 else none
          | _ => none : Option Nat)) = [1000, 2000, 4000, 8000, 16000] := by decide

example : delaySum 0 13 = 1 + 2 + 4 + 8 + 16 + 32 + 64 + 128 + 256 + 512 + 1024 + 2048 + 3600 := by decide

/-- an example host name: `h.local.` -/
def hostX : BList := [0x68, 0x2e, 0x6c, 0x6f, 0x63, 0x61, 0x6c, 0x2e]

/-! non-vacuity: an unanswered hostname search with a time-out of 6 s started at 1000 (deadline
    7000), iterations at the requested wake-ups: the address queries go out at 1000, 2000, 4000;
    the next one (8000) would not come before the deadline, so the schedule ends there; at 7000 the
    search times out -/
example :
    ((run (init 1000 [C03.eth0])
        [(1000, [], [.resolveHost hostX 7 (some 6000)]), (2000, [], []), (4000, [], []), (7000, [], []), (8000, [], [])]).2.filterMap
        fun o => (match o.2 with
          | .query [(n, 1), (_, 28)] _ => if n == hostX then some o.1 else none
          | _ => none : Option Nat)) = [1000, 2000, 4000] := by decide

example : HostSched hostX 7 (some 7000) 1000 0 (iter (init 1000 [C03.eth0]) 1000 [] [.resolveHost hostX 7 (some 6000)]).1 :=
  ⟨by decide, by decide, fun d hd => by cases hd; decide⟩

example : HostEnded hostX (run (init 1000 [C03.eth0])
    [(1000, [], [.resolveHost hostX 7 (some 6000)]), (2000, [], []), (4000, [], [])]).1 := by
  unfold HostEnded; decide

end ClientModel

end Mdns.Props.C19
