import Mdns.Lemmas.Decode
/-
  C01  Decoding any datagram is safe, terminating and bounded.

  Model: `Mdns/Model/Decode.lean` (`DnsIncoming::new` and everything it calls).
  Termination of every function of the model, in particular of the `read_name` loop, is
  checked by Lean at definition time (measure: pointers left, then bytes left); the
  pre-repair loop of the crate admits no such measure, see the witness in DESIGN.md (D2).
-/
namespace Mdns.Props.C01
open Mdns Mdns.Wire

/-- The `read_name` loop is bounded by a constant: at most 255 iterations per name, a name
    of at most 255 bytes, and the offset it returns lies inside the datagram. -/
theorem readName_bounded (d : Pkt) (off : Nat) (n : NameOut) (h : readName d off = .ok n) :
    n.steps ≤ 255 ∧ n.name.length ≤ MAX_NAME_LEN ∧ off < n.next ∧ n.next ≤ d.size := by
  have := (readName_spec d off).of_ok h
  simp only [MAX_NAME_LEN]
  omega

def records (m : Msg) : List Rec := m.answers ++ m.authorities ++ m.additionals

/-- The content of a decoded message, as five facts extracted from `decode d = ok m`. -/
structure Decoded (d : Pkt) (m : Msg) : Prop where
  /-- linear size: header + 5 bytes per question + 11 bytes and the copied RDATA per record
      fit in the datagram, hence the number of decoded entries, the bytes copied and the
      work (≤ 255 steps per name, ≤ 2 names per entry) are all at most a constant times
      the datagram length -/
  linear : 12 + 5 * m.questions.length + ((records m).map fun r => 11 + rdataBytes r.rdata).sum ≤ d.size
  /-- no name is longer than the RFC 1035 limit -/
  names : ∀ n ∈ msgNames m, n.length ≤ MAX_NAME_LEN
  /-- every record was read from a span of bytes inside the datagram, after the header -/
  spans : ∀ r ∈ records m, 12 ≤ r.start ∧ r.start + 11 ≤ r.stop ∧ r.stop ≤ d.size
  /-- records were read one after the other -/
  ordered : (records m).Pairwise (fun a b => a.stop ≤ b.start)
  /-- a response never yields TTL 0 (it is stored as 1 second) -/
  ttl : m.flags / 32768 % 2 = 1 → ∀ r ∈ records m, 1 ≤ r.ttl

/-- Decoding never panics: for every byte string the result is a message or an error. -/
theorem decode_no_panic (d : Pkt) : decode d ≠ .panic := (decode_spec d).ne_panic id

theorem decode_ok (d : Pkt) (m : Msg) (h : decode d = .ok m) : Decoded d m := by
  obtain ⟨o1, o4, hq, ho4, hqn, S⟩ := (decode_spec d).of_ok h
  have hsize := S.size
  refine ⟨by simp only [records]; omega, fun n hn => ?_, fun r hr => ?_, S.ordered, fun hresp r hr => ?_⟩
  · rcases List.mem_append.mp hn with hn | hn
    · obtain ⟨q, hq', rfl⟩ := List.mem_map.mp hn
      exact hqn q hq'
    · obtain ⟨r, hr, hn⟩ := List.mem_flatMap.mp hn
      exact (S.mem r hr).2.2.names n hn
  · have := S.mem r hr
    have := this.2.2.size
    omega
  · exact (S.mem r hr).2.2.ttl (by simpa using hresp)

/-- "time and memory proportional to the datagram size": entries and copied bytes -/
theorem decode_linear (d : Pkt) (m : Msg) (h : decode d = .ok m) :
    5 * m.questions.length + 11 * (records m).length + ((records m).map fun r => rdataBytes r.rdata).sum
      ≤ d.size - 12 := by
  have := (decode_ok d m h).linear
  have hsum : ∀ l : List Rec, (l.map fun r => 11 + rdataBytes r.rdata).sum =
      11 * l.length + (l.map fun r => rdataBytes r.rdata).sum := by
    intro l
    induction l with
    | nil => simp
    | cons a l ih => simp only [List.map_cons, List.sum_cons, List.length_cons, ih]; omega
  rw [hsum] at this
  omega

/-- "never produces a name longer than the datagram could encode" -/
theorem decode_names (d : Pkt) (m : Msg) (h : decode d = .ok m) :
    ∀ n ∈ msgNames m, n.length ≤ MAX_NAME_LEN := (decode_ok d m h).names

/-- "every record in a successfully decoded message was read from bytes inside the datagram" -/
theorem decode_in_bounds (d : Pkt) (m : Msg) (h : decode d = .ok m) :
    (∀ r ∈ records m, 12 ≤ r.start ∧ r.start < r.stop ∧ r.stop ≤ d.size) ∧
    (records m).Pairwise (fun a b => a.stop ≤ b.start) := by
  refine ⟨?_, (decode_ok d m h).ordered⟩
  intro r hr
  have := (decode_ok d m h).spans r hr
  omega

/-- TTL 0 in a response is stored as one second -/
theorem decode_ttl0 (d : Pkt) (m : Msg) (h : decode d = .ok m) (hresp : m.flags / 32768 % 2 = 1) :
    ∀ r ∈ records m, 1 ≤ r.ttl := (decode_ok d m h).ttl hresp

/-- a datagram shorter than a header is an error, never a message -/
theorem decode_short (d : Pkt) (h : d.size < 12) : decode d = .err := by
  simp [decode, h]

end Mdns.Props.C01
