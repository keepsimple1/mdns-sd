import Mdns.Lemmas.Sched
/-
  C19 (daemon level)  Repeated queries back off; browsing again replaces the search.

  Model: `Mdns/Model/Sched.lean`.  These theorems hold for ANY sequence of loop iterations
  (arbitrary times, arbitrarily late, any commands): they are safety statements and do
  not assume a timely scheduler.
-/
namespace Mdns.Props.C19.Daemon
open Mdns Mdns.Sched

/-- run the loop over a list of iterations `(now, commands)` -/
def runAll (s : State) : List (Nat × List Command) → State
  | [] => s
  | (now, cmds) :: rest => runAll (iter s now cmds).1 rest

/-- One schedule per search: in every reachable state, whatever the history, the queue of
    retransmissions holds at most one entry per browsed type and at most one per host
    name (compared without letter case).  "Browsing a type again replaces the earlier
    search instead of adding a second schedule." -/
theorem one_schedule (t0 : Nat) (history : List (Nat × List Command)) :
    OneEach (runAll (init t0) history).reruns := by
  have : ∀ (h : List (Nat × List Command)) (s : State), OneEach s.reruns → OneEach (runAll s h).reruns := by
    intro h
    induction h with
    | nil => intro s hs; exact hs
    | cons a h ih =>
      intro s hs
      obtain ⟨now, cmds⟩ := a
      exact ih _ (iter_one s now cmds hs)
  exact this history _ OneEach.nil

/-- A fresh `browse(ty)` at `now` sends the query at once and leaves exactly one queued
    retransmission for `ty`: due one second later, with the doubled delay. -/
theorem browse_starts_schedule (s : State) (now : Nat) (ty : BList) (ch : Nat) :
    (execCommand s now (.browse ty ch false)).2 = [.event ch .started, .query [(ty, 12)]] ∧
    (execCommand s now (.browse ty ch false)).1.reruns.filter (isBrowseOf ty) =
      [⟨now + 1000, .browse ty 2 ch⟩] := by
  refine ⟨rfl, ?_⟩
  show (s.reruns.filter (fun r => !isBrowseOf ty r) ++ [(⟨now + 1 * 1000, .browse ty (nextDelay 1) ch⟩ : Rerun)]).filter
    (isBrowseOf ty) = _
  rw [List.filter_append, filter_not_self]
  simp [isBrowseOf, nextDelay, MAX_DELAY]

/-- Executing a due retransmission `browse ty delay` at `now` sends the query once and
    queues the next one `delay` seconds later with `min (2*delay) 3600`: consecutive
    schedule sends of one search are at least `delay` seconds apart and delays follow
    1, 2, 4, … capped at one hour. -/
theorem rerun_backs_off (s : State) (now : Nat) (ty : BList) (delay ch : Nat) :
    execRerun s now (.browse ty delay ch) =
      (addRerun s (now + delay * 1000) (.browse ty (min (delay * 2) 3600) ch),
       [.event ch .started, .query [(ty, 12)]]) := rfl

/-- the same for hostname searches: A and AAAA at once, next one `delay` seconds later if
    that is before the deadline -/
theorem rerun_host_backs_off (s : State) (now : Nat) (h : BList) (delay ch : Nat)
    (hl : s.resolvers.any (·.1 == lower h) = true) :
    (execRerun s now (.resolveHost h delay ch)).2 = [.event ch .hstarted, .query [(h, 1), (h, 28)]] ∧
    ((execRerun s now (.resolveHost h delay ch)).1 = s ∨
     (execRerun s now (.resolveHost h delay ch)).1 =
        addRerun s (now + delay * 1000) (.resolveHost h (min (delay * 2) 3600) ch)) := by
  rw [execRerun_resolveHost, if_pos hl]
  refine ⟨rfl, ?_⟩
  split
  · exact .inr rfl
  · exact .inl rfl

/-- a retransmission that is not yet due is never executed: the loop leaves it queued and
    emits nothing for it -/
theorem not_due_not_sent (s : State) (now fuel : Nat) (r : Rerun) (h : ¬ now ≥ r.next) (hs : s.reruns = []) :
    runReruns s now (fuel + 1) [] [r] = ({ s with reruns := [r] }, []) := by
  rw [runReruns]
  simp only [h, ↓reduceIte, List.nil_append]
  cases fuel <;> simp [runReruns, hs]

/-- After `stop_browse(ty)` nothing is queued for `ty` any more. -/
theorem stop_clears (s : State) (now : Nat) (ty : BList) (h : (s.queriers.find? (·.1 == ty)).isSome) :
    (execCommand s now (.stopBrowse ty)).1.reruns.filter (isBrowseOf ty) = [] := by
  simp only [execCommand, execStopBrowse]
  cases hq : s.queriers.find? (·.1 == ty) with
  | none => simp [hq] at h
  | some q => exact filter_not_self _ _

/-! non-vacuity: a reachable state with a queued retransmission -/
example : (runAll (init 1000000) [(1000000, [.browse [0x5f, 0x61] 1 false])]).reruns =
    [⟨1001000, .browse [0x5f, 0x61] 2 1⟩] := by decide

end Mdns.Props.C19.Daemon
