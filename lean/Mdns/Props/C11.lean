import Mdns.Lemmas.Cache
import Mdns.Props.C01
/-
  C11  Records live for their TTL, refresh at 80/85/90/95 %, obey cache-flush.

  Model: `Mdns/Model/Record.lean` (lifetime functions of src/dns_parser.rs) and
  `Mdns/Model/Cache.lean` (`add_or_update`, eviction, refresh look-ups of src/dns_cache.rs).
  Component level: the daemon-level clause ("while a search that needs it is open, the daemon
  re-queries ...") is the contract of these functions with the run loop and is not part of
  this file.
-/
namespace Mdns.Props.C11
open Mdns Mdns.Rec Mdns.Rec.Record Mdns.Cache

/-- A record received at time `t` with TTL `ttl` seconds counts as expired exactly from
    `t + 1000·ttl` milliseconds on ... -/
theorem expired_iff (name : BList) (ty cls : Nat) (flush : Bool) (ttl : Nat) (rd : RData) (t now : Nat) :
    (Record.new name ty cls flush ttl rd t).isExpired now = true ↔ now ≥ t + 1000 * ttl := by
  rw [← expTime_hundred]
  exact decide_eq_true_iff

/-- ... so it is used until `t + 1000·ttl` and never after. -/
theorem used_until (name : BList) (ty cls : Nat) (flush : Bool) (ttl : Nat) (rd : RData) (t now : Nat) :
    (Record.new name ty cls flush ttl rd t).isExpired now = false ↔ now < t + 1000 * ttl := by
  rw [← Bool.not_eq_true, expired_iff]
  exact Nat.not_le

/-- "TTL 0 means one second": every record of a decoded response has a TTL of at least one
    second (`C01.decode_ttl0`), so the cache entry made from it at time `t` is alive during
    the whole second after `t`. -/
theorem ttl0_one_second (d : Wire.Pkt) (m : Wire.Msg) (h : Wire.decode d = .ok m) (hresp : m.flags / 32768 % 2 = 1)
    (r : Wire.Rec) (hr : r ∈ C01.records m) (rd : RData) (t now : Nat) (hnow : now < t + 1000) :
    (Record.new r.name r.ty r.cls r.flush r.ttl rd t).isExpired now = false := by
  rw [used_until]
  have := C01.decode_ttl0 d m h hresp r hr
  omega

/-- A record whose end of life was set to `e` (cache-flush, verification) is expired exactly from `e` on. -/
theorem expired_after_setExpire (r : Record) (e now : Nat) : (r.setExpire e).isExpired now = true ↔ now ≥ e :=
  decide_eq_true_iff

/-- **The schedule.**  Take a fresh record (received at `t`, TTL `ttl ≥ 1`) and ask it
    "refresh now?" (`refresh_maybe`) at an arbitrary sequence of times.  The answers are
    exactly those of the specification `specRun`: the observation at `now` triggers a
    re-query iff the record has not expired (`now < t + 1000·ttl`), fewer than four
    re-queries were triggered so far, and `now` has reached the mark number
    (re-queries so far) of 80 / 85 / 90 / 95 % of the lifetime.  Afterwards the `refresh`
    field is the next mark (100 % after four). -/
theorem refresh_schedule (name : BList) (ty cls : Nat) (flush : Bool) (ttl : Nat) (rd : RData) (t : Nat)
    (httl : 1 ≤ ttl) (times : List Nat) :
    (runRefresh (Record.new name ty cls flush ttl rd t) times).1 = specRun t ttl 0 times ∧
    (runRefresh (Record.new name ty cls flush ttl rd t) times).2.refresh =
      markAt t ttl (fired (specRun t ttl 0 times)) := by
  have h := runRefresh_spec times (new_onSchedule name ty cls flush ttl rd t) httl
  rw [Nat.zero_add] at h
  exact ⟨h.1, h.2.refresh⟩

/-- At most four re-queries, whatever the observation times are. -/
theorem refresh_at_most_four (name : BList) (ty cls : Nat) (flush : Bool) (ttl : Nat) (rd : RData) (t : Nat)
    (httl : 1 ≤ ttl) (times : List Nat) :
    fired (runRefresh (Record.new name ty cls flush ttl rd t) times).1 ≤ 4 := by
  have h := runRefresh_spec times (new_onSchedule name ty cls flush ttl rd t) httl
  rw [Nat.zero_add, ← h.1] at h
  exact h.2.k_le

/-- No re-query at or after expiry: every observation that triggers one lies before `t + 1000·ttl`. -/
theorem refresh_never_after_expiry (name : BList) (ty cls : Nat) (flush : Bool) (ttl : Nat) (rd : RData) (t : Nat)
    (httl : 1 ≤ ttl) (times : List Nat) :
    ∀ p ∈ paired times (runRefresh (Record.new name ty cls flush ttl rd t) times).1, p.2 = true → p.1 < t + 1000 * ttl := by
  rw [(refresh_schedule name ty cls flush ttl rd t httl times).1]
  exact specRun_before_expiry t ttl times 0

/-- At most one re-query per mark: before the mark number `j` (80 % is number 0) at most
    `j` re-queries are triggered; in particular none before 80 %, one before 85 %, ... -/
theorem refresh_one_per_mark (name : BList) (ty cls : Nat) (flush : Bool) (ttl : Nat) (rd : RData) (t : Nat)
    (httl : 1 ≤ ttl) (times : List Nat) (j : Nat) :
    firedBefore t ttl j (paired times (runRefresh (Record.new name ty cls flush ttl rd t) times).1) ≤ j := by
  rw [(refresh_schedule name ty cls flush ttl rd t httl times).1]
  exact specRun_one_per_mark t ttl j times 0

/-- The first re-query is triggered by the first observation at or after 80 % and before
    expiry: all earlier observations answer false, that one answers true, and the schedule
    continues with the 85 % mark. -/
theorem refresh_first (name : BList) (ty cls : Nat) (flush : Bool) (ttl : Nat) (rd : RData) (t : Nat)
    (httl : 1 ≤ ttl) (pre : List Nat) (now : Nat) (post : List Nat)
    (hpre : ∀ x ∈ pre, ¬ inWindow t ttl x) (hnow : inWindow t ttl now) :
    (runRefresh (Record.new name ty cls flush ttl rd t) (pre ++ now :: post)).1 =
      List.replicate pre.length false ++ true :: specRun t ttl 1 post := by
  rw [(refresh_schedule name ty cls flush ttl rd t httl _).1]
  exact specRun_first t ttl pre now post hpre hnow

/-- The marks are 80, 85, 90 and 95 % of the lifetime, then its end. -/
theorem marks (t ttl : Nat) :
    markAt t ttl 0 = t + 800 * ttl ∧ markAt t ttl 1 = t + 850 * ttl ∧ markAt t ttl 2 = t + 900 * ttl ∧
    markAt t ttl 3 = t + 950 * ttl ∧ markAt t ttl 4 = t + 1000 * ttl :=
  ⟨expTime_eq t ttl 80, expTime_eq t ttl 85, expTime_eq t ttl 90, expTime_eq t ttl 95, expTime_eq t ttl 100⟩

/-- **Every mark is honoured**: an observer that looks exactly at 80, 85, 90 and 95 % of the
    lifetime (the daemon arms its timer for the `refresh` field, C12) gets a re-query each
    time - four in all, for every TTL ≥ 1 s and reception time; a look in between gets none. -/
theorem refresh_punctual (name : BList) (ty cls : Nat) (flush : Bool) (ttl : Nat) (rd : RData) (t : Nat)
    (httl : 1 ≤ ttl) :
    (runRefresh (Record.new name ty cls flush ttl rd t)
      [t + 800 * ttl, t + 850 * ttl, t + 850 * ttl, t + 900 * ttl, t + 950 * ttl, t + 999 * ttl]).1 =
      [true, true, false, true, true, false] := by
  rw [(refresh_schedule name ty cls flush ttl rd t httl _).1]
  obtain ⟨m0, m1, m2, m3, _⟩ := marks t ttl
  rw [← m0, ← m1, ← m2, ← m3]
  have at_mark (k : Nat) (hk : k < 4) := specFires_at_mark t hk httl
  have before : specFires t ttl 2 (markAt t ttl 1) = false := specFires_of_lt_mark (markAt_lt_succ t ttl 1 (by omega) httl)
  simp only [specRun, at_mark 0 (by omega), at_mark 1 (by omega), before, at_mark 2 (by omega), at_mark 3 (by omega),
    specFires_four, if_true, Nat.reduceAdd, Bool.false_eq_true, if_false]

/-- A fresh copy of the record (`reset_ttl` with a record received at `t2` with TTL
    `ttl2 > 1`) restarts everything: the cached record equals a record newly made at `t2`
    with TTL `ttl2`, so all schedule theorems above apply again from `t2`. -/
theorem reset_restarts (r other : Record) (h : 1 < other.ttl) :
    r.resetTtl other = Record.new r.name r.ty r.cls r.flush other.ttl r.rdata other.created := by
  simp [resetTtl, Record.new, h]

/-- **The restart, spelled out for any history**: whatever happened to the cached record before
    (any number of marks used up, `refresh_no_more`, an expiry brought forward by a cache
    flush), after a fresh copy with TTL `ttl2 > 1` received at `t2` the answers of
    `refresh_maybe` to any sequence of observation times are those of the full schedule counted
    from `t2`: again up to four re-queries, at 80 / 85 / 90 / 95 % of the NEW lifetime, and the
    record is used exactly until `t2 + 1000·ttl2`. -/
theorem refresh_schedule_after_reset (r other : Record) (h : 1 < other.ttl) (times : List Nat) :
    (runRefresh (r.resetTtl other) times).1 = specRun other.created other.ttl 0 times ∧
    fired (runRefresh (r.resetTtl other) times).1 ≤ 4 ∧
    ∀ now, (r.resetTtl other).isExpired now = true ↔ now ≥ other.created + 1000 * other.ttl := by
  rw [reset_restarts r other h]
  refine ⟨(refresh_schedule _ _ _ _ _ _ _ (by omega) times).1,
    refresh_at_most_four _ _ _ _ _ _ _ (by omega) times, expired_iff _ _ _ _ _ _ _⟩

/-- a record whose four marks are used up and whose end was brought forward fires again at 80 %
    of the new lifetime after a fresh copy (TTL 10 s received at 50 000 ms: 58 000 ms) -/
example :
    let old : Record := { name := [], ty := 1, cls := 1, flush := true, ttl := 120, created := 0,
                          expires := 1000, refresh := 120000, rdata := .txt [] }
    let fresh : Record := { old with ttl := 10, created := 50000 }
    (runRefresh (old.resetTtl fresh) [57999, 58000, 58001, 58500, 59000, 59500, 59999, 60000]).1 =
      [false, true, false, true, true, true, false, false] := by
  decide

/-- A copy with TTL 0 or 1 (a goodbye) restarts only the lifetime: the record lives until
    `t2 + 1000·ttl2` and is never refreshed again. -/
theorem reset_goodbye (r other : Record) (h : other.ttl ≤ 1) :
    (∀ now, (r.resetTtl other).isExpired now = true ↔ now ≥ other.created + 1000 * other.ttl) ∧
    ∀ times, (runRefresh (r.resetTtl other) times).1 = List.replicate times.length false := by
  have hx : (r.resetTtl other).expires = expTime other.created other.ttl 100 := rfl
  have hr : (r.resetTtl other).refresh = expTime other.created other.ttl 100 := if_neg (Nat.not_lt.mpr h)
  refine ⟨fun now => ?_, fun times => congrArg Prod.fst (runRefresh_of_expires_le (Nat.le_of_eq (hx.trans hr.symm)) times)⟩
  rw [← expTime_hundred, ← hx]
  exact decide_eq_true_iff

/-- Resolver addresses are re-queried once: `refresh_due_hostname_resolutions` lists an address
    that is due and not expired and marks it `refresh_no_more`; from then on the record
    (whose end of life is its natural one) never asks for a refresh again. -/
theorem resolution_refresh_once (r : Record) (h : r.expires = expTime r.created r.ttl 100) (now : Nat) :
    r.refreshNoMore.refreshFires now = false :=
  refreshFires_of_expires_le (r := r.refreshNoMore) (Nat.le_of_eq h) now

/-- **Cache flush.**  `add_or_update` of a record `inc` arriving at `now`, on the entries `es`
    cached under its name:

    1. No entry is dropped or reordered by the flush step, and the entry at position `i`
       gets `expires := now + 1000` exactly when `inc` carries the cache-flush bit and the
       entry has the same class and type, was created more than one second ago
       (`created + 1000 < now`), has more than one second to live (`now + 1000 < expires`),
       and - for A/AAAA - was learned on the same interface index (`FlushCond`); every other
       entry is untouched.  Records of the same burst (`created + 1000 ≥ now`) are kept.
    2. Then the incoming record is stored: if no entry matches it, it is inserted in
       front with its interface; otherwise the first matching entry is refreshed from it
       (`reset_ttl`: its TTL and creation time, full lifetime) and the rest stays as after step 1. -/
theorem flush_rule (srcName : BList) (srcIdx : Nat) (inc : Record) (now : Nat) (es : List Entry) :
    (flushList inc now es).length = es.length ∧
    (∀ i : Nat, (flushList inc now es)[i]? = es[i]?.map fun e =>
      if inc.flush = true ∧ shouldFlush inc now e = true then { e with record := { e.record with expires := now + 1000 } } else e) ∧
    (∀ e, shouldFlush inc now e = true ↔ FlushCond inc now e) ∧
    (hasMatch inc es = false →
      addList srcName srcIdx inc now es = { record := inc, srcName, srcIdx } :: flushList inc now es) ∧
    (hasMatch inc es = true → ∃ pre e post,
      flushList inc now es = pre ++ e :: post ∧ (∀ x ∈ pre, x.record.matchesRec inc = false) ∧
      e.record.matchesRec inc = true ∧
      addList srcName srcIdx inc now es = pre ++ { e with record := e.record.resetTtl inc } :: post) := by
  refine ⟨by rw [flushList_eq_map, List.length_map], fun i => by rw [flushList_eq_map, List.getElem?_map],
    shouldFlush_iff inc now, ?_, ?_⟩
  · intro h
    simp [addList, upsert, hasMatch_flushList, h]
  · intro h
    have h' : hasMatch inc (flushList inc now es) = true := by rw [hasMatch_flushList]; exact h
    obtain ⟨pre, e, post, h1, h2, h3, h4, _⟩ := resetFirst_spec inc _ h'
    exact ⟨pre, e, post, h1, h2, h3, by simp [addList, upsert, h', h4]⟩

/-- Records of the same burst are kept: an entry created at most one second before `now`
    is never touched by the flush, and neither is one that expires within the second anyway. -/
theorem flush_keeps_burst (inc : Record) (now : Nat) (e : Entry)
    (h : now ≤ e.record.created + 1000 ∨ e.record.expires ≤ now + 1000) : flushOne inc now e = e := by
  have : shouldFlush inc now e = false := Bool.eq_false_iff.mpr fun hs =>
    have ⟨_, _, h1, h2, _⟩ := (shouldFlush_iff inc now e).mp hs
    h.elim (Nat.not_le.mpr h1) (Nat.not_le.mpr h2)
  rw [flushOne, this, if_neg Bool.false_ne_true]

/-- the refreshed copy has the TTL and arrival time of the incoming one and its full lifetime -/
theorem reset_fields (r inc : Record) :
    (r.resetTtl inc).ttl = inc.ttl ∧ (r.resetTtl inc).created = inc.created ∧
    (r.resetTtl inc).expires = inc.created + 1000 * inc.ttl ∧
    (r.resetTtl inc).name = r.name ∧ (r.resetTtl inc).rdata = r.rdata :=
  ⟨rfl, rfl, expTime_hundred _ _, rfl, rfl⟩

/-- In the cache: `add_or_update` of a record meant for us replaces exactly the entries of
    the record's own name in the table of its type by `addList` of them; every other name
    of that table keeps its entries. -/
theorem add_frame (c : Cache) (srcName : BList) (srcIdx : Nat) (inc : Record) (now : Nat) (s : Slot)
    (hs : slotOf inc.ty = some s) :
    ((addOrUpdate c srcName srcIdx inc now true).cache.table s).get (keyOf s inc.name) =
      some (addList srcName srcIdx inc now (((c.table s).get (keyOf s inc.name)).getD [])) ∧
    ∀ k, k ≠ keyOf s inc.name → ((addOrUpdate c srcName srcIdx inc now true).cache.table s).get k = (c.table s).get k := by
  simp only [addOrUpdate, hs, Bool.not_true, Bool.and_false, Bool.false_eq_true, if_false, setTable_table, if_true,
    noteSubtype_table, addList]
  exact ⟨Table.get_set_self _ _ _, fun k hk => Table.get_set_ne _ _ _ _ hk⟩

/-- **Eviction is exact** (addresses): after `evict_expired_addr(now)` a name keeps exactly
    its entries with `expires > now`, in their order, and a name without such entries is gone. -/
theorem evict_exact (c : Cache) (now : Nat) (k : BList) (es' : List Entry) :
    (k, es') ∈ (evictAddr c now).1.addr ↔
      ∃ es, (k, es) ∈ c.addr ∧ es' = es.filter (fun e => decide (now < e.record.expires)) ∧ es' ≠ [] := by
  have : (fun e : Entry => decide (now < e.record.expires)) = live now :=
    funext fun e => Bool.eq_iff_iff.mpr (decide_eq_true_iff.trans (live_iff now e).symm)
  rw [this]
  exact mem_evictTable now c.addr k es'

/-- entry by entry: removed iff `expires ≤ now` -/
theorem evict_entry (now : Nat) (es : List Entry) (e : Entry) :
    e ∈ es.filter (live now) ↔ e ∈ es ∧ now < e.record.expires := by
  simp [List.mem_filter, live_iff]

/-- With distinct names (which `add_or_update` and eviction preserve) the same as a look-up:
    what `get_addr` finds after eviction are the unexpired entries it found before. -/
theorem evict_lookup (c : Cache) (now : Nat) (h : c.addr.keys.Nodup) (k : BList) :
    ((evictAddr c now).1.addr.get k).getD [] = ((c.addr.get k).getD []).filter (live now) := by
  have hn : (evictTable now c.addr).keys.Nodup := (keys_evictTable_sublist now c.addr).nodup h
  show ((evictTable now c.addr).get k).getD [] = _
  cases h1 : (evictTable now c.addr).get k with
  | some es' =>
    obtain ⟨es, hes, rfl, _⟩ := (mem_evictTable now c.addr k es').mp ((Table.get_eq_some_iff _ hn k es').mp h1)
    rw [(Table.get_eq_some_iff _ h k es).mpr hes]
    rfl
  | none =>
    cases h2 : c.addr.get k with
    | none => rfl
    | some es =>
      have hes := (Table.get_eq_some_iff _ h k es).mp h2
      by_cases hne : es.filter (live now) = []
      · simp [hne]
      · have := (Table.get_eq_some_iff _ hn k _).mpr ((mem_evictTable now c.addr k _).mpr ⟨es, hes, rfl, hne⟩)
        rw [h1] at this
        cases this

/-- distinct names are kept by `add_or_update` and by eviction -/
theorem keys_nodup_preserved (c : Cache) (srcName : BList) (srcIdx : Nat) (inc : Record) (now : Nat) (forUs : Bool)
    (h : c.addr.keys.Nodup) :
    (addOrUpdate c srcName srcIdx inc now forUs).cache.addr.keys.Nodup ∧ (evictAddr c now).1.addr.keys.Nodup := by
  refine ⟨?_, (keys_evictTable_sublist now c.addr).nodup h⟩
  have h' : ((noteSubtype c inc forUs).table .addr).keys.Nodup := by rw [noteSubtype_table]; exact h
  have hset : ∀ (s : Slot) (v : List Entry),
      (((noteSubtype c inc forUs).setTable s (((noteSubtype c inc forUs).table s).set (keyOf s inc.name) v)).table .addr).keys.Nodup := by
    intro s v
    rw [setTable_table]
    split
    · next hs => exact hs.symm ▸ Table.nodup_set _ _ _ h'
    · exact h'
  unfold addOrUpdate
  cases slotOf inc.ty with
  | none => exact h'
  | some s =>
    dsimp only
    split
    · exact hset s _
    · exact hset s _

/-- PTR, SRV, TXT and NSEC entries: after `evict_expired_services(now)` every name of every
    one of the four tables keeps exactly its entries with `expires > now`, and a name left
    without entries is gone - also SRV/TXT/NSEC records that no PTR points to (repair of D19:
    before it such orphans were never evicted). -/
theorem evict_services_exact (c : Cache) (now : Nat) :
    (evictServices c now).1.ptr = evictLive now c.ptr ∧
    (evictServices c now).1.srv = evictLive now c.srv ∧
    (evictServices c now).1.txt = evictLive now c.txt ∧
    (evictServices c now).1.nsec = evictLive now c.nsec ∧
    ∀ (t : Table) k es', (k, es') ∈ evictLive now t ↔
      ∃ es, (k, es) ∈ t ∧ es' = es.filter (live now) ∧ es' ≠ [] := by
  refine ⟨rfl, rfl, rfl, rfl, fun t k es' => ?_⟩
  rw [evictLive_eq_evictTable]
  exact mem_evictTable now t k es'

/-! ### Non-vacuity -/

def nm : BList := [0x61]
def sample : Record := Record.new nm 12 1 false 100 (.ptr [0x62]) 0

/-- TTL 100 s, observed at the four marks and at expiry: four re-queries, none at expiry
    (the worked example of DESIGN.md 3.2) -/
example : (runRefresh sample [80000, 85000, 90000, 95000, 100000]).1 = [true, true, true, true, false] := by decide
/-- jumping over marks: one re-query per observation, never more than four -/
example : (runRefresh sample [79999, 92000, 92000, 99999, 99999, 99999]).1 = [false, true, true, true, true, false] := by decide
example : (runRefresh sample [92000, 92000]).2.refresh = 90000 := by decide
example : inWindow 0 100 80000 ∧ ¬ inWindow 0 100 79999 ∧ ¬ inWindow 0 100 100000 := by
  simp [inWindow, markAt, markPct, expTime]

def oldA : Entry := ⟨Record.new nm 1 1 true 120 (.addr [10, 0, 0, 1] [0x65] 2) 0, [0x65], 2⟩
def otherIf : Entry := ⟨Record.new nm 1 1 true 120 (.addr [10, 0, 0, 2] [0x66] 3) 0, [0x66], 3⟩
def burst : Entry := ⟨Record.new nm 1 1 true 120 (.addr [10, 0, 0, 3] [0x65] 2) 4000, [0x65], 2⟩
def incA : Record := Record.new nm 1 1 true 120 (.addr [10, 0, 0, 9] [0x65] 2) 5000

/-- a flush-bit address arriving at 5000 on interface 2: the old address of that interface
    expires at 6000, the one of another interface and the one of the same burst stay, the
    new record is inserted in front -/
example : (addList [0x65] 2 incA 5000 [oldA, otherIf, burst]).map (·.record.expires) = [125000, 6000, 120000, 124000] := by
  decide
example : FlushCond incA 5000 oldA := (shouldFlush_iff _ _ _).mp (by decide)
example : hasMatch incA [oldA, otherIf, burst] = false := by decide
/-- the same record again: refreshed in place, not duplicated -/
example : (addList [0x65] 2 incA 9000 [⟨incA, [0x65], 2⟩]).map (fun e => (e.record.created, e.record.expires)) =
    [(5000, 125000)] := by decide

example : ((evictAddr { addr := [(nm, [oldA, burst])] } 120000).1.addr.map fun p => p.2.length) = [1] := by decide
example : (evictAddr { addr := [(nm, [oldA, burst])] } 124000).1.addr = [] := by decide
example : (Cache.addr { addr := [(nm, [oldA, burst])] }).keys.Nodup := by decide

end Mdns.Props.C11
