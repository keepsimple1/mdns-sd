import Mdns.Lemmas.Encode
/-
  C02  Every emitted packet parses back to exactly the records that were added.

  Model: `Mdns/Model/Encode.lean` (`DnsOutgoing::to_packets` and everything it calls,
  `escape_instance_name`); specification of "parses back": `Mdns/Spec/RefParse.lean`.
-/
namespace Mdns.Props.C02
open Mdns Mdns.Enc

/-- Registration escaping is inverted by the wire writer: the escaped form of any
    non-empty label `l` (every byte kept, `.` and `\` escaped; this covers multi-byte
    UTF-8), followed by a separating dot, is read back by `parse_escaped_name` as exactly
    the label `l`, and the rest of the name is read as if it stood alone.  There is no
    side condition on `rest`: the separating dot is unescaped, so `rest` never starts in
    the middle of an escape sequence. -/
theorem labels_escape (l rest : BList) (h : l ≠ []) :
    parseEscaped (escape l ++ [0x2E] ++ rest) = l :: parseEscaped rest := by
  unfold parseEscaped
  rw [List.append_assoc, parseEscapedGo_escape, List.nil_append]
  exact parseEscapedGo_dot rest l h

theorem labels_escape_last (l : BList) (h : l ≠ []) : parseEscaped (escape l) = [l] :=
  parseEscaped_escape l h

/-- The same for a whole name as `write_name` reads it (one trailing dot stripped first):
    an escaped instance label in front of any name is read back as that label followed by
    the labels of the name. -/
theorem labelsOf_escape (l rest : BList) (h : l ≠ []) :
    labelsOf (escape l ++ [0x2E] ++ rest) = l :: labelsOf rest := by
  unfold labelsOf
  by_cases hr : rest = []
  · subst hr
    have : stripDot (escape l ++ [0x2E] ++ []) = escape l := by
      simp [stripDot]
    rw [this, labels_escape_last l h]
    simp [stripDot, parseEscaped, parseEscapedGo]
  · rw [stripDot_append _ _ hr]
    exact labels_escape l _ h

/-- `parse_escaped_name` never produces an empty label, whatever the text (empty labels
    `a..b`, leading dots, a lone `.` are dropped). -/
theorem parseEscaped_no_empty (name : BList) : ∀ l ∈ parseEscaped name, l ≠ [] :=
  parseEscapedGo_no_empty name []

/-- non-vacuity: the instance label `a.b\` (a dot and a backslash), escaped as at
    registration (`a\.b\\`) and put in front of `x.yz`, is read back as that one label -/
example : parseEscaped (escape [0x61, 0x2E, 0x62, 0x5C] ++ [0x2E] ++ [0x78, 0x2E, 0x79, 0x7A]) =
    [[0x61, 0x2E, 0x62, 0x5C], [0x78], [0x79, 0x7A]] := by decide

example : escape [0x61, 0x2E, 0x62, 0x5C] = [0x61, 0x5C, 0x2E, 0x62, 0x5C, 0x5C] := by decide

/-- a full name with trailing dot: `a\\.b.x.` reads as `a.b`, `x` -/
example : labelsOf (escape [0x61, 0x2E, 0x62] ++ [0x2E] ++ [0x78, 0x2E]) = [[0x61, 0x2E, 0x62], [0x78]] := by decide

/-- empty labels are dropped: `.a..b.` reads as `a`, `b` -/
example : parseEscaped [0x2E, 0x61, 0x2E, 0x2E, 0x62, 0x2E] = [[0x61], [0x62]] := by decide

/-! ### no panic, packet size, header -/

/-- The encoder never returns an error and, inside the domain `MsgOK` (every label of
    every name at most 63 bytes; answers not past their expiry, in particular `now = 0`),
    it never panics.  Outside the domain it does: `assert!(s.len() < 64)` (D10). -/
theorem encode_no_panic (o : OutMsg) (h : MsgOK o) : encode o ≠ .panic ∧ encode o ≠ .err := by
  unfold encode
  refine (toPackets_run o).elim (fun ps _ => ?_) False.elim fun hc => absurd h hc
  exact ⟨fun e => (nomatch e), fun e => (nomatch e)⟩

/-- `add_answer_at_time` only lets through answers for which the TTL subtraction of
    `get_remaining_ttl` cannot underflow. -/
theorem addAnswerAtTime_ok (o : OutMsg) (r : RecIn) (now : Nat) (hr : RecOK r)
    (h : ∀ a ∈ o.answers, AnsOK a) : ∀ a ∈ (o.addAnswerAtTime r now).answers, AnsOK a := by
  unfold OutMsg.addAnswerAtTime
  split
  · rename_i hc
    intro a ha
    simp only [List.mem_append, List.mem_singleton] at ha
    rcases ha with ha | rfl
    · exact h a ha
    · refine ⟨hr, ?_⟩
      rcases hc with h0 | h0
      · exact Or.inl h0
      · right
        simp [isExpired] at h0
        exact Nat.le_of_lt h0
  · exact h

example : MsgOK ex1 := by decide
example : RecOK (mkRec nAB 12 1 120 1000 (.ptr nCAB)) := by decide
example : encode ex1 = .ok [#[0, 0, 0, 0, 0, 1, 0, 1, 0, 0, 0, 1, 1, 97, 1, 98, 0, 0, 12, 0, 1, 192, 12, 0, 12, 0, 1,
    0, 0, 0, 120, 0, 6, 3, 99, 46, 100, 192, 12, 192, 33, 0, 1, 128, 1, 0, 0, 17, 148, 0, 4, 10, 0, 0, 1]] := ex1_encode
/-- outside the domain: a 64-byte label panics -/
example : encode ((OutMsg.new 0 0).addQuestion (List.replicate 64 0x61) 12) = .panic := by decide

/-- Every packet is at most 8972 bytes, PROVIDED the question section alone does not
    already exceed it.  The hypothesis `questionsSize o ≤ 8972` is exactly the known
    defect D17: `to_packets` never size-checks questions, so without it the bound is false
    (600 questions give one packet of 13830 bytes).  Records are covered by the roll-back
    of `write_record`. -/
theorem packet_size (o : OutMsg) (ps : List Packet) (h : toPackets o = .ok ps)
    (hq : questionsSize o ≤ MAX_MSG_ABSOLUTE) : ∀ p ∈ ps, p.data.size ≤ MAX_MSG_ABSOLUTE := by
  obtain ⟨⟨init, last, rfl, hi, hl⟩, _⟩ := (toPackets_run o).of_ok h
  rw [Nat.max_eq_left hq] at hi hl
  intro p hp
  simp only [List.mem_append, List.mem_singleton] at hp
  rcases hp with hp | rfl
  · exact (hi p hp).hi
  · exact hl.hi

/-- A message WITHOUT questions: every packet is at most 8972 bytes, unconditionally. -/
theorem packet_size_no_questions (o : OutMsg) (ps : List Packet) (h : toPackets o = .ok ps)
    (hq : o.questions = []) : ∀ p ∈ ps, p.data.size ≤ MAX_MSG_ABSOLUTE := by
  apply packet_size o ps h
  simp [questionsSize, hq, writeQuestions, MAX_MSG_ABSOLUTE]

/-- the same for the bytes returned by `to_data_on_wire` -/
theorem packet_size_on_wire (o : OutMsg) (ds : List Data) (h : encode o = .ok ds)
    (hq : questionsSize o ≤ MAX_MSG_ABSOLUTE) : ∀ d ∈ ds, d.size ≤ MAX_MSG_ABSOLUTE := by
  unfold encode at h
  cases hp : toPackets o with
  | ok ps =>
    simp only [hp, Res.ok.injEq] at h
    subst h
    intro d hd
    obtain ⟨p, hp', rfl⟩ := List.mem_map.mp hd
    exact packet_size o ps hp hq p hp'
  | err => simp [hp] at h
  | panic => simp [hp] at h

example : questionsSize ex1 ≤ MAX_MSG_ABSOLUTE := by decide
/-- a response without questions -/
example : ((OutMsg.new 0x8400 0).addAdditional (mkRec nCAB 1 0x8001 4500 1000 (.a [10, 0, 0, 1]))).questions = [] := rfl

/-- The four counts in the header of every packet equal the number of questions and
    records that were written into that packet and kept (`ghost`: the lists the model
    carries next to the Rust counters; a rolled-back record is in neither).  Counts are
    16-bit fields, hence the `% 65536` (a packet of at most 8972 bytes holds fewer than
    816 records; only the unchecked question count of D17 can wrap). -/
theorem header_counts (o : OutMsg) (ps : List Packet) (h : toPackets o = .ok ps) :
    ∀ p ∈ ps, CountsOK p := by
  obtain ⟨⟨init, last, rfl, hi, hl⟩, _⟩ := (toPackets_run o).of_ok h
  intro p hp
  simp only [List.mem_append, List.mem_singleton] at hp
  rcases hp with hp | rfl
  · exact (hi p hp).counts
  · exact hl.counts

/-- Every packet but the last carries the message flags with TC set, the last one the
    message flags themselves; every packet carries the same id (0, as `multicast` is
    always set) and has a complete 12-byte header. -/
theorem tc_flags (o : OutMsg) (ps : List Packet) (h : toPackets o = .ok ps) :
    ∃ init last, ps = init ++ [last] ∧
      (∀ p ∈ init, Ref.u16 p.data 2 = some ((o.flags ||| FLAGS_TC) % 65536)) ∧
      Ref.u16 last.data 2 = some (o.flags % 65536) ∧
      (∀ p ∈ ps, Ref.u16 p.data 0 = some (wireId o % 65536) ∧ 12 ≤ p.data.size) := by
  obtain ⟨⟨init, last, rfl, hi, hl⟩, _⟩ := (toPackets_run o).of_ok h
  refine ⟨init, last, rfl, fun p hp => by simpa using (hi p hp).flags, by simpa using hl.flags, ?_⟩
  intro p hp
  simp only [List.mem_append, List.mem_singleton] at hp
  rcases hp with hp | rfl
  · exact ⟨(hi p hp).hid, (hi p hp).lo⟩
  · exact ⟨hl.hid, hl.lo⟩

/-- What the packets carry, taken together and in packet order: exactly the questions
    that were added, and for each record section an in-order subsequence of what was added
    (a record that does not fit is left out whole or carried into a following packet;
    nothing is invented, nothing is reordered, nothing is duplicated). -/
theorem carried_in_order (o : OutMsg) (ps : List Packet) (h : toPackets o = .ok ps) :
    ps.flatMap (·.ghost.qs) = o.questions ∧
    (ps.flatMap (·.ghost.an)).Sublist o.answers ∧
    (ps.flatMap (·.ghost.au)).Sublist o.authorities ∧
    (ps.flatMap (·.ghost.ad)).Sublist o.additionals := ((toPackets_run o).of_ok h).2

/-- non-vacuity of the three theorems above: `ex1` yields one packet with counts 1/1/0/1 -/
example : (match toPackets ex1 with
    | .ok ps => ps.map fun p => [p.ghost.qs.length, p.ghost.an.length, p.ghost.au.length, p.ghost.ad.length,
                                 (Ref.u16 p.data 4).getD 99, (Ref.u16 p.data 6).getD 99,
                                 (Ref.u16 p.data 8).getD 99, (Ref.u16 p.data 10).getD 99]
    | _ => []) = [[1, 1, 0, 1, 1, 1, 0, 1]] := by decide +kernel

/-! ### the compression table and the round trip -/

/-- The invariant of the compression table (`NamesOK D names`: every entry `(key, off)`
    has `off` inside the packet and below 2^14, `key` is the key of a non-empty sequence of
    non-empty labels, and the reference reader reads exactly that sequence at `off`) is
    preserved by `write_name`, and the name that was written reads back, at the position
    where it was written, as the label sequence of the textual name - also when more
    bytes follow.  (Names of at most 255 octets; the name ends below offset 16384 so
    that every new offset fits a compression pointer.) -/
theorem names_invariant_writeName (p p' : OutPacket) (name : BList) (h : p.writeName name = .ok p')
    (hs : p.data.size + wlen (labelsOf name) ≤ 16384) (hn : NamesOK p.data p.names) :
    NamesOK p'.data p'.names ∧
    (wlen (labelsOf name) ≤ 255 → ∀ x : Data, ∃ e,
      Ref.readName (p'.data ++ x) p.data.size = some (labelsOf name, e) ∧ e = p'.data.size) := by
  obtain ⟨bs, new, h1, _, _, _, _, _, h7⟩ := writeName_spec p p' name h hs
  obtain ⟨a, b⟩ := h7 p.data rfl hn
  rw [← h1] at a b
  refine ⟨a, fun hw x => ⟨_, b hw x, by rw [h1]; simp⟩⟩

/-- `write_record` preserves the invariant of the compression table in both outcomes.
    If the record does not fit, the packet is restored EXACTLY: same bytes, same table (the
    repair of D3: without the `retain` the table would keep offsets into removed bytes). If
    it fits, the reference reader finds, at the position where the record was written,
    exactly the record that was added (owner labels, type, class, flush bit, TTL, RDATA
    with PTR/SRV target labels), and the next entry starts where the packet now ends. -/
theorem names_invariant_writeRecord (p p' : OutPacket) (r : RecIn) (now : Nat) (b : Bool)
    (h : p.writeRecord r now = .ok (p', b)) (hw : RecWF r now) (hs : p.data.size ≤ MAX_MSG_ABSOLUTE)
    (hn : NamesOK p.data p.names) :
    NamesOK p'.data p'.names ∧
    (b = false → p'.data = p.data ∧ p'.names = p.names) ∧
    (b = true → ∀ x : Data, Ref.readRecord (p'.data ++ x) p.data.size = some (expRec r now, p'.data.size)) := by
  have hb : ∀ e ∈ p.names, e.2 < p.data.size := fun e he => (hn e he).1
  obtain ⟨s1, s2⟩ := writeRecord_spec p p' r now b h hw hs hb
  cases b with
  | false =>
    obtain ⟨d1, d2⟩ := s1 rfl
    exact ⟨by rw [d1, d2]; exact hn, fun _ => ⟨d1, d2⟩, fun hc => by simp at hc⟩
  | true =>
    obtain ⟨bs, new, a1, _, _, _, a5⟩ := s2 rfl
    obtain ⟨c1, c2⟩ := a5 p.data rfl hn
    rw [← a1] at c1 c2
    refine ⟨c1, fun hc => by simp at hc, fun _ x => ?_⟩
    rw [c2 x, a1]; simp

/-- non-vacuity of the two invariant theorems: the fresh packet satisfies the invariant
    (empty table); after writing `a.b.` the table has two entries (`a.b`, `b`) and the
    invariant still holds by the theorem; the PTR record of `ex1` is in the domain -/
example : NamesOK OutPacket.new.data OutPacket.new.names := by
  intro e he; simp [OutPacket.new] at he

example : (match OutPacket.new.writeName nAB with | .ok p => p.names | _ => []) =
    [([0x62], 14), ([0x61, 0x2E, 0x62], 12)] := by decide

example : RecWF (mkRec nAB 12 1 120 1000 (.ptr nCAB)) 0 ∧ OutPacket.new.data.size ≤ MAX_MSG_ABSOLUTE := by decide

/-- Every packet, read by the independent RFC 1035 reader, yields exactly what the model
    wrote into it (`ghost`): `Ref.parse` succeeds - so the four header counts are matched
    by the entries and the last entry ends the packet - and returns the id, the flags
    (with TC on every packet but the last), the questions and the records of that packet
    field by field.  Compression pointers, escaped dots and backslashes, roll-backs and the
    TC continuation are all covered.  Hypotheses: `MsgWF` (names at most 255 octets, field
    widths, RDATA kind matching the type) and `questionsSize o ≤ 8972`, which is D17. -/
theorem parse_each_packet (o : OutMsg) (ps : List Packet) (h : toPackets o = .ok ps) (hw : MsgWF o)
    (hq : questionsSize o ≤ MAX_MSG_ABSOLUTE) :
    ∃ init last, ps = init ++ [last] ∧
      (∀ p ∈ init, Ref.parse p.data = some (expMsg o (wireId o) true p.ghost)) ∧
      Ref.parse last.data = some (expMsg o (wireId o) false last.ghost) := by
  obtain ⟨⟨init, last, rfl, hi, hl⟩, _⟩ := (toPackets_run o).of_ok h
  exact ⟨init, last, rfl, fun p hp => (hi p hp).parse ⟨hw, hq⟩, hl.parse ⟨hw, hq⟩⟩

/-- **The property (C02), on the bytes returned by `to_data_on_wire`.**  For every message
    in the domain (`MsgWF`; labels of 1..=63 bytes are implied by the encoder returning at
    all) whose question section alone fits a packet (D17), there are messages `ms`, one
    per packet, such that
    * the reference reader parses packet `i` to `ms[i]` (hence header counts = entries
      carried, nothing trailing);
    * every packet is at most 8972 bytes;
    * the questions of all packets together are exactly the questions added, in order;
    * the answers / authorities / additionals of all packets together are an in-order
      subsequence of the records added, each equal field by field (owner label sequence,
      type, class, cache-flush bit, TTL, RDATA with PTR/SRV target label sequences) to
      what `expRec` derives from the added record - so no packet contains a record or a
      name that was not added;
    * every packet but the last has the message flags with TC set, the last one the
      message flags. -/
theorem encode_sound (o : OutMsg) (ds : List Data) (h : encode o = .ok ds) (hw : MsgWF o)
    (hq : questionsSize o ≤ MAX_MSG_ABSOLUTE) :
    ∃ ms : List Ref.Msg,
      ds.map Ref.parse = ms.map some ∧
      (∀ d ∈ ds, d.size ≤ MAX_MSG_ABSOLUTE) ∧
      ms.flatMap (·.questions) = o.questions.map expQ ∧
      (ms.flatMap (·.answers)).Sublist (o.answers.map fun a => expRec a.1 a.2) ∧
      (ms.flatMap (·.authorities)).Sublist (o.authorities.map (expRec · 0)) ∧
      (ms.flatMap (·.additionals)).Sublist (o.additionals.map (expRec · 0)) ∧
      ∃ init last, ms = init ++ [last] ∧
        (∀ m ∈ init, m.flags = (o.flags ||| FLAGS_TC) % 65536) ∧ last.flags = o.flags % 65536 := by
  unfold encode at h
  cases hp : toPackets o with
  | err => simp [hp] at h
  | panic => simp [hp] at h
  | ok ps =>
    simp only [hp, Res.ok.injEq] at h
    subst h
    obtain ⟨init, last, rfl, hi, hl⟩ := parse_each_packet o ps hp hw hq
    obtain ⟨g1, g2, g3, g4⟩ := carried_in_order o _ hp
    refine ⟨expMsgs o (init ++ [last]), ?_, ?_, ?_, ?_, ?_, ?_, ?_⟩
    · rw [expMsgs_append]
      simp only [List.map_append, List.map_map, List.map_cons, List.map_nil]
      congr 1
      · apply List.map_congr_left
        intro p hp'
        simpa using hi p hp'
      · simpa using hl
    · intro d hd
      obtain ⟨p, hp', rfl⟩ := List.mem_map.mp hd
      exact packet_size o _ hp hq p hp'
    · rw [expMsgs_append, ← g1]
      simp [List.flatMap_append, expMsg, List.flatMap_map, List.map_flatMap]
    · have := g2.map (fun a => expRec a.1 a.2)
      rw [expMsgs_append]
      simpa [List.flatMap_append, expMsg, List.flatMap_map, List.map_flatMap] using this
    · have := g3.map (expRec · 0)
      rw [expMsgs_append]
      simpa [List.flatMap_append, expMsg, List.flatMap_map, List.map_flatMap] using this
    · have := g4.map (expRec · 0)
      rw [expMsgs_append]
      simpa [List.flatMap_append, expMsg, List.flatMap_map, List.map_flatMap] using this
    · refine ⟨init.map (fun p => expMsg o (wireId o) true p.ghost), expMsg o (wireId o) false last.ghost,
        expMsgs_append o init last, ?_, by simp [expMsg]⟩
      intro m hm
      obtain ⟨p, _, rfl⟩ := List.mem_map.mp hm
      simp [expMsg]

/-- non-vacuity: `ex1` is in the domain, its question section fits, and the reference
    reader does return the three entries with their label sequences (`a.b`: two labels,
    `c\.d.a.b`: first label `c.d`), read through two compression pointers -/
example : MsgWF ex1 ∧ questionsSize ex1 ≤ MAX_MSG_ABSOLUTE := by decide

example : (match encode ex1 with | .ok ds => ds.map Ref.parse | _ => []) =
    [some { id := 0, flags := 0,
            questions := [{ name := [[0x61], [0x62]], qtype := 12, qclass := 1 }],
            answers := [{ name := [[0x61], [0x62]], type := 12, cls := 1, flush := false, ttl := 120,
                          rdata := .ptr [[0x63, 0x2E, 0x64], [0x61], [0x62]] }],
            authorities := [],
            additionals := [{ name := [[0x63, 0x2E, 0x64], [0x61], [0x62]], type := 1, cls := 1, flush := true,
                              ttl := 4500, rdata := .a [10, 0, 0, 1] }] }] := by
  rw [ex1_encode]; decide +kernel

/-- The monitor's core predicate `soundCore` (what `./check C02` evaluates on the packets
    of the REAL encoder) is true of every packet list the model produces for a message in
    the domain: it is the conclusion of `encode_sound` in decidable form. -/
theorem soundCore_holds (o : OutMsg) (ds : List Data) (h : encode o = .ok ds) (hw : MsgWF o)
    (hq : questionsSize o ≤ MAX_MSG_ABSOLUTE) : soundCore o ds = true := by
  obtain ⟨ms, h1, h2, h3, h4, h5, h6, init, last, h7, h8, h9⟩ := encode_sound o ds h hw hq
  unfold soundCore
  rw [h1, allSome_map_some]
  simp only [coreOn, Bool.and_eq_true, List.all_eq_true, decide_eq_true_eq, beq_iff_eq]
  refine ⟨h2, ⟨⟨⟨⟨h3, leftOut_of_sublist _ _ h4⟩, leftOut_of_sublist _ _ h5⟩, leftOut_of_sublist _ _ h6⟩, ?_⟩⟩
  subst h7
  simp only [flagsOK, List.reverse_append, List.reverse_cons, List.reverse_nil, List.nil_append,
    List.singleton_append, Bool.and_eq_true, beq_iff_eq, List.all_eq_true, List.mem_reverse]
  exact ⟨h9, h8⟩

example : soundCore ex1 (match encode ex1 with | .ok ds => ds | _ => []) = true := by
  rw [ex1_encode]; decide +kernel

/-- The last clause of the property, "the crate's own decoder reads the same content from
    those packets", as a statement about the decoder model of C01 (`Wire.decode`): NOT
    proved here.  It needs a second invariant family (every pointer written by the encoder
    targets a name that starts before the name being read, which is the decoder's rule
    `pointer < start_offset`, plus UTF-8 validity of the labels).  It is checked on every
    run instead: the monitor compares what `DnsIncoming::new` reads from each real packet
    with `viewMsg (Ref.parse packet)` (clauses `own-decoder-rejects`, `own-decoder-differs`). -/
def decode_agrees : Prop :=
  ∀ (o : OutMsg) (ds : List Data), encode o = .ok ds → MsgWF o → questionsSize o ≤ MAX_MSG_ABSOLUTE →
    (∀ n ∈ (o.questions.map (·.name)), ∀ l ∈ labelsOf n, validUtf8 l = true) →
    ∀ d ∈ ds, ∃ m v, Ref.parse d = some m ∧ viewMsg m = some v ∧
      (Wire.decode d).map (fun w => { w with
          answers := w.answers.map ({ · with start := 0, stop := 0 }),
          authorities := w.authorities.map ({ · with start := 0, stop := 0 }),
          additionals := w.additionals.map ({ · with start := 0, stop := 0 }) }) = .ok v

/-- The property at full strength = what `encode_sound` proves + the decoder clause. -/
def C02_full : Prop :=
  (∀ (o : OutMsg) (ds : List Data), encode o = .ok ds → MsgWF o → questionsSize o ≤ MAX_MSG_ABSOLUTE →
    ∃ ms : List Ref.Msg,
      ds.map Ref.parse = ms.map some ∧ (∀ d ∈ ds, d.size ≤ MAX_MSG_ABSOLUTE) ∧
      ms.flatMap (·.questions) = o.questions.map expQ ∧
      (ms.flatMap (·.answers)).Sublist (o.answers.map fun a => expRec a.1 a.2) ∧
      (ms.flatMap (·.authorities)).Sublist (o.authorities.map (expRec · 0)) ∧
      (ms.flatMap (·.additionals)).Sublist (o.additionals.map (expRec · 0)) ∧
      ∃ init last, ms = init ++ [last] ∧
        (∀ m ∈ init, m.flags = (o.flags ||| FLAGS_TC) % 65536) ∧ last.flags = o.flags % 65536) ∧
  decode_agrees

/-- `C02_full` with the decoder clause as the one missing piece. -/
theorem encode_sound_partial (hd : decode_agrees) : C02_full :=
  ⟨fun o ds h hw hq => encode_sound o ds h hw hq, hd⟩

end Mdns.Props.C02
