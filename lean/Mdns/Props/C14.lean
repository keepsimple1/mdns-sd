import Mdns.Lemmas.Shutdown
/-
  C14  Shutdown is clean, final and safe under concurrent use (queue model).

  Model: `Mdns/Model/Shutdown.lean`.

  The theorems quantify over EVERY queue and EVERY position of the shutdown in it.  What
  the model cannot exhibit - OS-thread interleavings, the channel implementation, blocking
  `recv` - is exercised by `stress-shutdown` runs on real threads (support, not proof).
-/
namespace Mdns.Props.C14
open Mdns Mdns.Shutdown

/-- no `Exit` among these commands -/
def noExit (cs : List QCmd) : Prop := ∀ c ∈ cs, ∀ ch, c ≠ .exit ch

theorem process_append_exit (s : QState) (before behind : List QCmd) (ch : Nat) (h : noExit before) :
    process s (before ++ .exit ch :: behind) =
      ((shutdown (process s before).1 ch behind).1,
       (process s before).2 ++ (shutdown (process s before).1 ch behind).2) := by
  induction before generalizing s with
  | nil => rfl
  | cons c rest ih =>
    have hc := h c List.mem_cons_self
    rw [List.cons_append, process_cons s c _ hc, process_cons s c _ hc,
      ih _ fun x hx => h x (List.mem_cons_of_mem _ hx), List.append_assoc]

/-- Shutdown contract, for a shutdown at ANY position of ANY queue: the commands in front of
    it are executed normally; then every service still registered is withdrawn with a
    goodbye, every open search gets SearchStopped (and its channel ends), every command queued
    behind the shutdown has its reply channel closed, the caller of shutdown gets `Shutdown`,
    and the thread ends. -/
theorem shutdown_contract (s : QState) (before behind : List QCmd) (ch : Nat) (h : noExit before) :
    let s1 := (process s before).1
    (process s (before ++ .exit ch :: behind)).2 =
      (process s before).2 ++ s1.services.map .goodbye ++
        s1.searches.flatMap (fun c => [.searchStopped c, .closed c]) ++
        (behind.filterMap chanOf).map .closed ++ [.reply ch "shutdown", .threadEnds] ++ s1.monitors.map .closed := by
  simp only [process_append_exit s before behind ch h, shutdown, List.append_assoc]

/-- afterwards nothing is registered, no search is open, the daemon is not running -/
theorem after_shutdown_state (s : QState) (before behind : List QCmd) (ch : Nat) (h : noExit before) :
    (process s (before ++ .exit ch :: behind)).1 =
      { services := [], searches := [], monitors := [], running := false } := by
  simp [process_append_exit s before behind ch h, shutdown]

/-- No call is left hanging: every command of the queue that has a reply channel gets a
    value on it or the channel is closed - whatever the position of the shutdown. -/
theorem every_reply_settled (s : QState) (before behind : List QCmd) (ch : Nat) (h : noExit before) :
    ∀ c ∈ behind, ∀ k, chanOf c = some k →
      QOut.closed k ∈ (process s (before ++ .exit ch :: behind)).2 := by
  intro c hc k hk
  rw [shutdown_contract s before behind ch h]
  simp only [List.mem_append, List.mem_map, List.mem_filterMap]
  refine Or.inl (Or.inl (Or.inr ⟨k, ⟨c, hc, hk⟩, rfl⟩))

/-- The clean-up happens exactly once: the thread ends exactly once and the caller of the
    first shutdown is the only one to get the `Shutdown` value from the daemon. -/
theorem cleanup_once (s : QState) (before behind : List QCmd) (ch : Nat) (h : noExit before)
    (hb : (process s before).2.count .threadEnds = 0) :
    (process s (before ++ .exit ch :: behind)).2.count .threadEnds = 1 := by
  rw [shutdown_contract s before behind ch h]
  have other {α : Type} (f : α → QOut) (hf : ∀ a, f a ≠ .threadEnds) (l : List α) : (l.map f).count .threadEnds = 0 :=
    List.count_eq_zero.mpr fun hm => let ⟨a, _, e⟩ := List.mem_map.mp hm; hf a e
  have stopped (l : List Nat) : (l.flatMap fun c => [QOut.searchStopped c, QOut.closed c]).count .threadEnds = 0 :=
    List.count_eq_zero.mpr fun hm => by
      obtain ⟨c, _, hc⟩ := List.mem_flatMap.mp hm
      cases hc with
      | tail _ hc => cases hc with
        | tail _ hc => cases hc
  simp only [List.count_append, hb, other QOut.goodbye (fun _ => nofun), other QOut.closed (fun _ => nofun), stopped]
  rfl

/-- commands in front of the shutdown never end the thread -/
theorem running_loop_never_ends (s : QState) (cs : List QCmd) (h : noExit cs) :
    (process s cs).2.count .threadEnds = 0 := by
  induction cs generalizing s with
  | nil => rfl
  | cons c rest ih =>
    rw [process_cons s c rest (h c List.mem_cons_self), List.count_append, exec_count_threadEnds,
      ih _ fun x hx => h x (List.mem_cons_of_mem _ hx)]

/-- the channels of the searches a queue of commands opens -/
def opened : List QCmd → List Nat
  | [] => []
  | .browse _ ch :: cs => ch :: opened cs
  | .resolve _ ch :: cs => ch :: opened cs
  | _ :: cs => opened cs

/-- the running loop keeps every search that was open and adds the ones the queue opens -/
theorem searches_after (s : QState) (cs : List QCmd) (h : noExit cs) :
    (process s cs).1.searches = s.searches ++ opened cs := by
  induction cs generalizing s with
  | nil => exact (List.append_nil _).symm
  | cons c rest ih =>
    rw [process_cons s c rest (h c List.mem_cons_self), ih _ fun x hx => h x (List.mem_cons_of_mem _ hx)]
    cases c with
    | browse _ ch | resolve _ ch => exact List.append_assoc _ [ch] _
    | unregister name ch =>
      rw [exec]
      split <;> rfl
    | _ => rfl

/-- **Every search open at the shutdown is told so, and that is the last thing it hears**:
    each search that was open before the queue or is opened by a command in front of the
    shutdown gets `SearchStopped` immediately followed by the end of its channel; and nothing
    the shutdown emits starts a search - a browse queued behind it only has its channel closed
    (`every_reply_settled`). -/
theorem open_searches_stopped_last (s : QState) (before behind : List QCmd) (ch : Nat) (h : noExit before) :
    (∀ c ∈ s.searches ++ opened before,
      [QOut.searchStopped c, QOut.closed c] <:+: (process s (before ++ .exit ch :: behind)).2) ∧
    ∀ o ∈ (shutdown (process s before).1 ch behind).2, ∀ c, o ≠ QOut.searchStarted c := by
  constructor
  · intro c hc
    rw [shutdown_contract s before behind ch h, searches_after s before h]
    refine (infix_flatMap (fun c => [QOut.searchStopped c, QOut.closed c]) hc).trans ?_
    exact ⟨(process s before).2 ++ (process s before).1.services.map .goodbye,
      (behind.filterMap chanOf).map .closed ++ [.reply ch "shutdown", .threadEnds] ++ (process s before).1.monitors.map .closed,
      by simp only [List.append_assoc]⟩
  · intro o ho c hoc
    subst hoc
    simp [shutdown] at ho

example : opened [.metrics 1, .browse [0x61] 5, .other, .resolve [0x62] 6] = [5, 6] := by decide

/-- once the thread has ended every call fails with `DaemonShutdown`, except `status()`, which
    reports `Shutdown` -/
theorem calls_after_end (c : QCmd) :
    (callAfterEnd c).2 = "shutdown" ∨ ∃ ch, c = .status ch ∧ (callAfterEnd c).1 = [.reply ch "shutdown", .closed ch] := by
  cases c <;> simp [callAfterEnd]

/-! non-vacuity: a queue with commands on both sides of the shutdown -/
example :
    (process { services := [[0x61]], searches := [7], monitors := [], running := true }
      [.metrics 1, .exit 2, .status 3, .exit 4, .other]).2 =
    [.reply 1 "metrics", .goodbye [0x61], .searchStopped 7, .closed 7, .closed 3, .closed 4,
     .reply 2 "shutdown", .threadEnds] := by decide

end Mdns.Props.C14
