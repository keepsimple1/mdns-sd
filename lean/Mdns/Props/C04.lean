import Mdns.Props.C03
import Mdns.Lemmas.ClientSchedule
/-
  C04  Everything advertised for a browsed type is found and resolved.

  Model: `Mdns/Model/Client.lean` (exact on scripted-responder histories, compared with the
  real daemon on every run).  Proved here: the follow-up contract (PTR without SRV / SRV
  without address ⇒ `Resolve(inst, 1)` after 500 ms, three tries 500 ms apart, each asking
  exactly the missing records) and the resolution step (an update that touches an instance
  whose records are complete and usable emits `ServiceResolved` in that very step).  The
  completeness INVARIANT over histories is stated (`ResolvedComplete_full`) and refuted on a
  concrete history: only NEW (or revived) records count as updates in `handle_response`, a
  record that is refreshed while in its last second does not.
-/
namespace Mdns.Props.C04
open Mdns Mdns.Rec Mdns.Cache Mdns.Client

theorem addPending_mono (s : State) (now : Nat) (j : BList) :
    (∀ r ∈ s.reruns, r ∈ (addPending s now j).reruns) ∧ (∀ t ∈ s.timers, t ∈ (addPending s now j).timers) ∧
    (∀ p ∈ s.pending, p ∈ (addPending s now j).pending) := by
  unfold addPending
  split
  · exact ⟨fun _ h => h, fun _ h => h, fun _ h => h⟩
  · refine ⟨fun r h => ?_, fun t h => ?_, fun p h => ?_⟩
    · simp [addRerun, h]
    · simp [addRerun, h]
    · simp [h]

theorem addPendings_mono (now : Nat) : ∀ (l : List BList) (s : State),
    (∀ r ∈ s.reruns, r ∈ (addPendings s now l).reruns) ∧ (∀ t ∈ s.timers, t ∈ (addPendings s now l).timers) ∧
    (∀ p ∈ s.pending, p ∈ (addPendings s now l).pending)
  | [], _ => ⟨fun _ h => h, fun _ h => h, fun _ h => h⟩
  | j :: rest, s => by
    have h1 := addPending_mono s now j
    have h2 := addPendings_mono now rest (addPending s now j)
    simp only [addPendings]
    exact ⟨fun r h => h2.1 r (h1.1 r h), fun t h => h2.2.1 t (h1.2.1 t h), fun p h => h2.2.2 p (h1.2.2 p h)⟩

/-- `add_pending_resolve` for an instance that is not pending yet: the follow-up is queued
    500 ms ahead, a timer is armed for it, and the instance is marked pending -/
theorem addPending_new (s : State) (now : Nat) (i : BList) (h : i ∉ s.pending) :
    (⟨now + 500, .resolve i 1⟩ : Rerun) ∈ (addPending s now i).reruns ∧ (now + 500) ∈ (addPending s now i).timers ∧
    i ∈ (addPending s now i).pending := by
  unfold addPending
  have : ¬ (s.pending.contains i = true) := by simpa using h
  rw [if_neg this]
  simp [addRerun, RESOLVE_WAIT]

theorem addPendings_new (now : Nat) (i : BList) : ∀ (l : List BList) (s : State), i ∈ l → i ∉ s.pending →
    (⟨now + 500, .resolve i 1⟩ : Rerun) ∈ (addPendings s now l).reruns ∧ (now + 500) ∈ (addPendings s now l).timers ∧
    i ∈ (addPendings s now l).pending
  | [], _, h, _ => by cases h
  | j :: rest, s, h, hn => by
    simp only [addPendings]
    by_cases hj : j = i
    · subst hj
      have h1 := addPending_new s now j hn
      have h2 := addPendings_mono now rest (addPending s now j)
      exact ⟨h2.1 _ h1.1, h2.2.1 _ h1.2.1, h2.2.2 _ h1.2.2⟩
    · have hin : i ∈ rest := by
        rcases List.mem_cons.mp h with h | h
        · exact absurd h.symm hj
        · exact h
      apply addPendings_new now i rest _ hin
      unfold addPending
      split
      · exact hn
      · simp only [List.mem_append, List.mem_singleton, not_or]
        exact ⟨hn, fun e => hj e.symm⟩

theorem mem_visits_of (s : State) (now : Nat) (u : List BList) (ty : BList) (ch : Nat) (es : List Entry) (e : Entry)
    (inst : BList) (hu : inst ∈ u) (hq : s.queriers.lookup ty = some ch) (hes : (ty, es) ∈ s.cache.ptr) (he : e ∈ es)
    (ha : aliasOf e = some inst) (huse : usable now e = true) : (ty, ch, inst) ∈ visits s now u := by
  simp only [visits, List.mem_flatMap]
  refine ⟨(ty, es), hes, ?_⟩
  simp only [hq, List.mem_map, List.mem_filter, List.mem_filterMap]
  exact ⟨inst, ⟨⟨e, ⟨he, huse⟩, ha⟩, by simpa using hu⟩, rfl⟩

/-- **followup_contract, part 1.**  `resolve_updated_instances` on an update that touches `inst`:
    if a usable PTR of a type that is browsed and not cache-only (`browse`, not `browse_cache`:
    a cache-only browse sends no query, so it queues no follow-up - repair of D23b) points to
    `inst` but it cannot be resolved from the
    cache (no usable SRV - "only the PTR arrived" - or no usable address of its host) and no
    follow-up is pending for it, then `Resolve(inst, 1)` is queued for `now + 500` with a timer
    (so the daemon wakes for it, C12), and `inst` is marked pending. -/
theorem followup_queued (s : State) (now : Nat) (u : List BList) (ty : BList) (ch : Nat) (es : List Entry) (e : Entry)
    (inst : BList) (hu : inst ∈ u) (hq : s.queriers.lookup ty = some ch) (hes : (ty, es) ∈ s.cache.ptr) (he : e ∈ es)
    (ha : aliasOf e = some inst) (huse : usable now e = true) (hact : ty ∉ s.cacheOnly)
    (hinv : (resolveFromCache s.cache now ty inst).valid = false) (hnp : inst ∉ s.pending) :
    (⟨now + 500, .resolve inst 1⟩ : Rerun) ∈ (resolveUpdated s now u).1.reruns ∧
    (now + 500) ∈ (resolveUpdated s now u).1.timers ∧ inst ∈ (resolveUpdated s now u).1.pending := by
  have hv := mem_visits_of s now u ty ch es e inst hu hq hes he ha huse
  have hne : u.isEmpty = false := List.isEmpty_eq_false_iff.mpr (List.ne_nil_of_mem hu)
  unfold resolveUpdated
  simp only [hne, Bool.false_eq_true, if_false]
  apply addPendings_new
  · simp only [List.mem_eraseDups, List.mem_map, List.mem_filter]
    exact ⟨(ty, ch, inst), ⟨⟨hv, by simp [visitValid, hinv]⟩, by simpa using hact⟩, rfl⟩
  · simp only [markResolved, List.mem_filter, not_and]
    intro h
    exact absurd h hnp

/-- what the follow-up asks: `ANY inst` when there is no SRV entry for the instance -/
theorem asks_any (c : Cache) (inst : BList) (hv : validInstanceName inst = true) (hs : c.srv.get inst = none) :
    queryUnresolved c inst = some [(inst, 255)] := by
  simp [queryUnresolved, hv, hs]

/-- ... `A` and `AAAA` of the SRV target when the SRV is there but no address entry for its host -/
theorem asks_addresses (c : Cache) (inst : BList) (srvs : List Entry) (h : BList)
    (hv : validInstanceName inst = true) (hs : c.srv.get inst = some srvs)
    (hh : (srvs.filterMap hostOf).find? (fun h => (c.addr.get (lower h)).isNone) = some h) :
    queryUnresolved c inst = some [(h, 1), (h, 28)] := by
  simp [queryUnresolved, hv, hs, hh]

/-- ... and nothing once SRV and address entries are there -/
theorem asks_nothing (c : Cache) (inst : BList) (srvs : List Entry) (hs : c.srv.get inst = some srvs)
    (hh : ∀ h ∈ srvs.filterMap hostOf, (c.addr.get (lower h)).isSome = true) : queryUnresolved c inst = none := by
  unfold queryUnresolved
  split
  · rfl
  · simp only [hs, Option.map_eq_none_iff, List.find?_eq_none]
    intro h hm
    have := hh h hm
    cases hg : c.addr.get (lower h) <;> simp_all

/-- **followup_contract, part 2.**  Executing `Resolve(inst, k)`: when something is missing
    (`queryUnresolved = some qs`) exactly that query goes out, and try `k + 1` is queued 500 ms
    ahead iff `k < 3`; when nothing is missing the command does nothing. -/
theorem followup_step (s : State) (now : Nat) (inst : BList) (k : Nat) :
    (∀ qs, queryUnresolved s.cache inst = some qs →
      (execResolveInst s now inst k).2 = [sendQuery s.cache now qs] ∧
      (execResolveInst s now inst k).1.reruns =
        (if k < 3 then s.reruns ++ [⟨now + 500, .resolve inst (k + 1)⟩] else s.reruns)) ∧
    (queryUnresolved s.cache inst = none → execResolveInst s now inst k = (s, [])) := by
  refine ⟨?_, ?_⟩
  · intro qs h
    unfold execResolveInst
    simp only [h, MAX_TRY, RESOLVE_WAIT]
    by_cases hk : k < 3 <;> simp [hk, addRerun]
  · intro h
    unfold execResolveInst
    simp only [h]

/-- **followup_contract, part 3: a due follow-up is run.**  `Resolve(inst, k)` is queued for
    `n ≤ now` (with its timer - `followup_queued`; the daemon asks to be woken no later than `n`:
    `Props.C12.wake_never_late_run`).  The iteration at `now` - whatever it reads, whatever
    commands it processes - runs it on the cache as it is when the re-run phase starts: if
    something is still missing there, exactly that query goes out in this iteration and, while
    `k < 3`, try `k + 1` is queued for `now + 500`. -/
theorem followup_runs_when_due (s : State) (now : Nat) (pkts : List Packet) (cmds : List Command) (inst : BList) (k n : Nat)
    (hr : (⟨n, .resolve inst k⟩ : Rerun) ∈ s.reruns) (hdue : n ≤ now) (qs : List (BList × Nat))
    (hqs : queryUnresolved (runCommands (preCommands s now pkts) now cmds).1.cache inst = some qs) :
    sendQuery (runCommands (preCommands s now pkts) now cmds).1.cache now qs ∈ (iter s now pkts cmds).2 ∧
    (k < 3 → (⟨now + 500, .resolve inst (k + 1)⟩ : Rerun) ∈ (iter s now pkts cmds).1.reruns) := by
  obtain ⟨st', h0, hc, _, ho, hm, _⟩ := tail_due (preCommands s now pkts) now cmds ⟨n, .resolve inst k⟩
    (followup_kept_runCommands now _ rfl cmds _
      (AppendsFollowups.mem (s' := (ingress s now pkts).1) (af_ingress now pkts s) hr)) hdue
  rw [← hc] at hqs ⊢
  refine ⟨tailOuts_in_iter s now pkts cmds _ (ho _ ?_), fun hk => ?_⟩
  · simp [execRerun, execResolveInst, hqs]
  · rw [(iter_tail s now pkts cmds).1]
    refine hm _ ?_ (by show now < now + RESOLVE_WAIT; simp only [RESOLVE_WAIT]; omega)
    have hk' : k < MAX_TRY := hk
    simp [execRerun, execResolveInst, hqs, hk', addRerun, h0, RESOLVE_WAIT]

/-- an `ANY` question for the instance among the outputs -/
def asksAny (inst : BList) (outs : List Out) : Prop := ∃ known, Out.query [(inst, 255)] known ∈ outs

/-- **The three follow-ups at +500, +1000, +1500 ms.**  Only the PTR of `inst` has arrived (no SRV
    entry for it) and `Resolve(inst, 1)` is queued for `n` (= arrival + 500 ms, `followup_queued`).
    If nothing else arrives and iterations run at `n`, `n + 500` and `n + 1000` (the wake-ups the
    daemon asks for), each of them sends the question `ANY inst`. -/
theorem followups_at_500_1000_1500 (s : State) (inst : BList) (n : Nat) (hv : validInstanceName inst = true)
    (hsrv : s.cache.srv.get inst = none) (hr : (⟨n, .resolve inst 1⟩ : Rerun) ∈ s.reruns) :
    asksAny inst (iter s n [] []).2 ∧
    asksAny inst (iter (iter s n [] []).1 (n + 500) [] []).2 ∧
    asksAny inst (iter (iter (iter s n [] []).1 (n + 500) [] []).1 (n + 1000) [] []).2 := by
  have step : ∀ (x : State) (now k m : Nat), x.cache.srv.get inst = none → (⟨m, .resolve inst k⟩ : Rerun) ∈ x.reruns →
      m ≤ now → asksAny inst (iter x now [] []).2 ∧ (iter x now [] []).1.cache.srv.get inst = none ∧
        (k < 3 → (⟨now + 500, .resolve inst (k + 1)⟩ : Rerun) ∈ (iter x now [] []).1.reruns) := by
    intro x now k m hx hm hle
    have hq1 := srv_none_quiet x now [] inst hx
    have hqs := asks_any (runCommands (preCommands x now []) now []).1.cache inst hv hx
    obtain ⟨h1, h2⟩ := followup_runs_when_due x now [] [] inst k m hm hle _ hqs
    exact ⟨⟨_, h1⟩, hq1, h2⟩
  obtain ⟨a1, c1, r1⟩ := step s n 1 n hsrv hr (Nat.le_refl _)
  obtain ⟨a2, c2, r2⟩ := step _ (n + 500) 2 (n + 500) c1 (r1 (by omega)) (Nat.le_refl _)
  obtain ⟨a3, _, _⟩ := step _ (n + 1000) 3 (n + 500 + 500) c2 (r2 (by omega)) (by omega)
  exact ⟨a1, a2, a3⟩

/-- **Resolved as soon as complete.**  `resolve_updated_instances` on an update that touches
    `inst`: if a usable PTR of the type browsed on `ch` points to `inst` and the cache resolves
    it validly (usable SRV with a host that has a usable address), `ServiceResolved` goes to
    `ch` in this very step and `inst` is recorded as resolved. -/
theorem resolved_when_complete (s : State) (now : Nat) (u : List BList) (ty : BList) (ch : Nat) (es : List Entry)
    (e : Entry) (inst : BList) (hu : inst ∈ u) (hq : s.queriers.lookup ty = some ch) (hes : (ty, es) ∈ s.cache.ptr)
    (he : e ∈ es) (ha : aliasOf e = some inst) (huse : usable now e = true)
    (hv : (resolveFromCache s.cache now ty inst).valid = true) :
    Out.event ch (.resolved (resolveFromCache s.cache now ty inst)) ∈ (resolveUpdated s now u).2 := by
  have hvis := mem_visits_of s now u ty ch es e inst hu hq hes he ha huse
  have hne : u.isEmpty = false := List.isEmpty_eq_false_iff.mpr (List.ne_nil_of_mem hu)
  unfold resolveUpdated
  simp only [hne, Bool.false_eq_true, if_false, List.mem_append, List.mem_map, List.mem_filter]
  left
  exact ⟨(ty, ch, inst), ⟨hvis, by simp [visitValid, hv]⟩, rfl⟩

/-- which updates touch an instance: a NEW PTR pointing to it, a NEW SRV or TXT of it, a NEW
    address whose owner is (in any letter case) the target of its first SRV -/
theorem touched_by (c : Cache) (changes : List (Nat × BList)) (inst : BList) :
    ((12, inst) ∈ changes ∨ (33, inst) ∈ changes ∨ (16, inst) ∈ changes ∨
      ∃ h, ((1, h) ∈ changes ∨ (28, h) ∈ changes) ∧ inst ∈ instancesOnHost c h) →
    inst ∈ updatedInstances c changes := by
  intro h
  simp only [updatedInstances, List.mem_flatMap]
  rcases h with h | h | h | ⟨host, h | h, hi⟩
  · exact ⟨(12, inst), h, by simp⟩
  · exact ⟨(33, inst), h, by simp⟩
  · exact ⟨(16, inst), h, by simp⟩
  · exact ⟨(1, host), h, by simp [hi]⟩
  · exact ⟨(28, host), h, by simp [hi]⟩

/-! ### revived records are updates (repair of the D24 family) -/

theorem addOrUpdate_flag (c : Cache) (srcName : BList) (srcIdx : Nat) (inc : Record) (now : Nat) (forUs : Bool) (s : Slot)
    (hs : slotOf inc.ty = some s) (x : Entry × Bool) (hx : (addOrUpdate c srcName srcIdx inc now forUs).result = some x) :
    x.2 = newFlag inc now ((((noteSubtype c inc forUs).table s).get (keyOf s inc.name)).getD []) := by
  unfold addOrUpdate at hx
  simp only [hs] at hx
  split at hx
  · cases hx
  · simp only [Option.map_eq_some_iff] at hx
    obtain ⟨e, _, rfl⟩ := hx
    rfl

/-- **A record that was withdrawn and is announced again is reported as new**: if every cached
    copy matching the incoming record is a withdrawn one (TTL ≤ 1: a goodbye is kept with TTL 1
    for one more second) and the incoming TTL is above 1, `add_or_update` answers `is_new`, so
    `handle_response` treats it as an update (`touched_by`) and re-resolves the instance. -/
theorem revived_is_new (inc : Record) (now : Nat) (es : List Entry) (hinc : inc.ttl > 1)
    (hrev : ∀ e ∈ es, e.record.matchesRec inc = true → e.record.ttl ≤ 1) : newFlag inc now es = true := by
  unfold newFlag
  cases hm : hasMatch inc (flushList inc now es) with
  | false => rfl
  | true =>
    obtain ⟨pre, e, post, h1, _, h3, _, h5⟩ := resetFirst_spec inc _ hm
    have hidx : upsertIdx inc (flushList inc now es) = pre.length := by simp [upsertIdx, hm, h5]
    have hget : (flushList inc now es)[pre.length]? = some e := by
      rw [h1]; simp
    have hmem : e ∈ flushList inc now es := by rw [h1]; simp
    obtain ⟨e0, he0, lo⟩ := listLow_flushList inc now es e hmem
    have hm0 : e0.record.matchesRec inc = true := by
      rw [matchesRec_iff] at h3 ⊢
      obtain ⟨l1, l2, l3, l4, l5, _, _, _⟩ := lo
      exact ⟨l1 ▸ h3.1, l2 ▸ h3.2.1, l3 ▸ h3.2.2.1, l4 ▸ h3.2.2.2.1, l5 ▸ h3.2.2.2.2⟩
    have httl : e.record.ttl ≤ 1 := by
      have := hrev e0 he0 hm0
      rw [lo.2.2.2.2.2.2.1]
      exact this
    simp [hidx, hget, httl, hinc]

/-- the records of `inst` are complete and usable in the cache for the browse of `ty` -/
def Complete (s : State) (now : Nat) (ty inst : BList) : Prop :=
  (s.queriers.lookup ty).isSome = true ∧
  (s.cache.ptr.any fun p => p.1 == ty && p.2.any fun e => aliasOf e == some inst && usable now e) = true ∧
  (resolveFromCache s.cache now ty inst).valid = true

/-- C04 at full strength on the model: at every iteration boundary of every history, an
    instance whose records are complete and usable has been reported resolved. -/
def ResolvedComplete_full : Prop :=
  ∀ (t0 : Nat) (intfs : List Intf) (h : List (Nat × List Packet × List Command)) (now : Nat) (ty inst : BList),
    (h.getLast?.map (·.1)) = some now →
    Complete (run (init t0 intfs) h).1 now ty inst → inst ∈ (run (init t0 intfs) h).1.resolved

open C03 in
/-- regression (repair of the D24 family): the address arrives first as a goodbye (TTL 0,
    stored as 1) and is announced again within the second.  `add_or_update` reports such a
    revived record as new, so the instance is resolved in that step. -/
def revivedHistory : List (Nat × List Packet × List Command) :=
  [(1000, [], [.browse ty 1 false]),
   (1500, [{ announce with msg := { announce.msg with additionals :=
       [wrec inst 33 120 (.srv 0 0 80 host), wrec inst 16 120 (.txt [1, 0x61]), wrec host 1 1 (.a [10, 0, 0, 1])] } }], []),
   (1600, [{ announce with msg := { announce.msg with answers := [wrec host 1 120 (.a [10, 0, 0, 1])], additionals := [] } }], [])]

open C03 in
example :
    ((run (init 1000 [eth0]) revivedHistory).2.filter
        fun o => match o.2 with | .event _ (.resolved _) => true | _ => false) =
      [(1600, .event 1 (.resolved theEvent))] ∧
    ((run (init 1000 [eth0]) revivedHistory).1.resolved.contains inst) = true := by decide

open C03 in
/-- The address is cached with a short TTL (2 s); PTR, SRV and TXT arrive while it is in its
    last second (`expires_soon`: the instance cannot be resolved yet), and 100 ms later the
    address is announced again.  The second copy only refreshes the cached entry (its old TTL
    was 2, not a withdrawn record), it is not an update for `handle_response`, and nothing
    re-resolves the instance although PTR, SRV, TXT and address are all usable from then on. -/
def gapHistory : List (Nat × List Packet × List Command) :=
  [(1000, [], [.browse ty 1 false]),
   (1500, [{ announce with msg := { announce.msg with answers := [wrec host 1 2 (.a [10, 0, 0, 1])], additionals := [] } }], []),
   (2600, [{ announce with msg := { announce.msg with additionals :=
       [wrec inst 33 120 (.srv 0 0 80 host), wrec inst 16 120 (.txt [1, 0x61])] } }], []),
   (2700, [{ announce with msg := { announce.msg with answers := [wrec host 1 120 (.a [10, 0, 0, 1])], additionals := [] } }], []),
   (9000, [], [])]

open C03 in
theorem resolvedComplete_witness :
    (resolveFromCache (run (init 1000 [eth0]) gapHistory).1.cache 9000 ty inst).valid = true ∧
    ((run (init 1000 [eth0]) gapHistory).1.resolved.contains inst) = false := by decide

/-- `ResolvedComplete_full` does not hold of the model (hence, by the correspondence, of the
    code): witness `gapHistory` (a record refreshed in its last second; the same history
    reproduces on the real daemon, `corpus/C04/d35_addr_refreshed_in_last_second.ops`) -/
theorem resolvedComplete_full_false : ¬ ResolvedComplete_full := by
  intro h
  have hw := resolvedComplete_witness
  have := h 1000 [C03.eth0] gapHistory 9000 C03.ty C03.inst (by decide) ⟨by decide, by decide, hw.1⟩
  have hc : ((run (init 1000 [C03.eth0]) gapHistory).1.resolved.contains C03.inst) = true := by simpa using this
  rw [hw.2] at hc
  cases hc

/-- **ResolvedComplete, partial**: what holds is the step version - whenever an update touches
    the instance (`touched_by`) while its records are complete, it is resolved in that step.
    Missing for the invariant: re-delivered (not new) records do not count as updates. -/
theorem resolvedComplete_partial (s : State) (now : Nat) (u : List BList) (ty inst : BList) (hu : inst ∈ u)
    (hc : Complete s now ty inst) :
    ∃ ch, Out.event ch (.resolved (resolveFromCache s.cache now ty inst)) ∈ (resolveUpdated s now u).2 := by
  obtain ⟨hq, hp, hv⟩ := hc
  obtain ⟨ch, hq⟩ := Option.isSome_iff_exists.mp hq
  simp only [List.any_eq_true, Bool.and_eq_true, beq_iff_eq] at hp
  obtain ⟨p, hp, hk, e, he, ha, huse⟩ := hp
  obtain ⟨k, es⟩ := p
  simp only at hk
  subst hk
  exact ⟨ch, resolved_when_complete s now u k ch es e inst hu hq hp he ha huse hv⟩

/-! ### non-vacuity: only the PTR arrives; the daemon asks ANY at +500, +1000, +1500 and then stops -/

def inst5 : BList := [0x69, 0x2e, 0x5f, 0x74, 0x2e, 0x5f, 0x75, 0x2e, 0x6c, 0x2e]   -- "i._t._u.l."
def ty5 : BList := [0x5f, 0x74, 0x2e, 0x5f, 0x75, 0x2e, 0x6c, 0x2e]                 -- "_t._u.l."

def ptrOnly : Packet :=
  { ifIdx := 2, v4 := true,
    msg := { id := 0, flags := 0x8400, questions := [], answers := [C03.wrec ty5 12 120 (.ptr inst5)],
             authorities := [], additionals := [] } }

example :
    ((run (init 1000 [C03.eth0]) [(1000, [], [.browse ty5 1 false]), (1200, [ptrOnly], []), (1700, [], []), (2200, [], []),
        (2700, [], []), (3200, [], [])]).2.filterMap
        fun o => match o.2 with | .query [(n, 255)] _ => some (o.1, n) | _ => none) =
      [(1700, inst5), (2200, inst5), (2700, inst5)] := by decide

end Mdns.Props.C04
