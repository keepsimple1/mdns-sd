import Mdns.Lemmas.ClientProps
/-
  C03  A resolved service only ever shows live data that was actually received.

  Model: `Mdns/Model/Client.lean` (one loop iteration `Client.iter`, exact on scripted-responder
  histories: compared with the real daemon on every run, `Driver/SimClient.lean`).
  The theorems hold for ANY sequence of iterations (any times, packets, commands): no
  timeliness assumption.
-/
namespace Mdns.Props.C03
open Mdns Mdns.Rec Mdns.Cache Mdns.Client

/-- What a `ServiceResolved` event is built from, in terms of the cache `c` at the moment it
    is assembled at `now` ("usable" = not `expires_soon(now)`, i.e. `now + 1000 < expires`):
    * host and port are those of a usable SRV entry of the instance;
    * every address is the address of a usable entry under the lower-cased host, tagged with
      the interface of that entry - and every usable entry is listed (exactly those tags);
    * the TXT bytes are those of a usable TXT entry of the instance, or empty;
    * host and address set are not empty. -/
structure ResolvedFrom (c : Cache) (now : Nat) (r : Resolved) : Prop where
  srv : ∃ e ∈ (c.srv.get r.fullname).getD [], e.record.expiresSoon now = false ∧
    ∃ prio weight, e.record.rdata = .srv prio weight r.port r.host
  addr_sound : ∀ a ∈ r.addrs, ∃ e ∈ (c.addr.get (lower r.host)).getD [],
    e.record.expiresSoon now = false ∧ e.record.rdata = .addr a.1 a.2.1 a.2.2
  addr_complete : ∀ e ∈ (c.addr.get (lower r.host)).getD [], e.record.expiresSoon now = false →
    ∀ ip n i, e.record.rdata = .addr ip n i → (ip, n, i) ∈ r.addrs
  txt : r.txt = [] ∨ ∃ e ∈ (c.txt.get r.fullname).getD [], e.record.expiresSoon now = false ∧
    e.record.rdata = .txt r.txt
  host_ne : r.host ≠ []
  addrs_ne : r.addrs ≠ []

theorem usable_iff (now : Nat) (e : Entry) : usable now e = true ↔ e.record.expiresSoon now = false := by
  simp [usable]

/-- `resolve_service_from_cache`: a VALID result is built from usable entries only -/
theorem resolveFromCache_sound (c : Cache) (now : Nat) (ty inst : BList)
    (hv : (resolveFromCache c now ty inst).valid = true) : ResolvedFrom c now (resolveFromCache c now ty inst) := by
  simp only [Resolved.valid, Bool.not_eq_true', Bool.or_eq_false_iff, List.isEmpty_eq_false_iff] at hv
  obtain ⟨⟨_, hhost'⟩, haddrs'⟩ := hv
  refine ⟨?_, ?_, ?_, ?_, hhost', haddrs'⟩
  · simp only [resolveFromCache] at hhost' ⊢
    cases hs : liveSrv c now inst with
    | none => simp [hs, srvHostPort] at hhost'
    | some e =>
      have hmem : e ∈ (c.srv.get inst).getD [] := List.mem_of_find?_eq_some hs
      have huse : usable now e = true := List.find?_some hs
      refine ⟨e, hmem, (usable_iff now e).mp huse, ?_⟩
      cases hr : e.record.rdata with
      | srv p w port h => exact ⟨p, w, by simp [srvHostPort, hr]⟩
      | _ => simp [hs, srvHostPort, hr] at hhost'
  · intro a ha
    simp only [resolveFromCache, liveAddrs, List.mem_eraseDups, List.mem_filterMap, List.mem_filter] at ha
    obtain ⟨e, ⟨hmem, huse⟩, hitem⟩ := ha
    exact ⟨e, hmem, (usable_iff now e).mp huse, mem_addrItemOf hitem⟩
  · intro e hmem huse ip n i hr
    simp only [resolveFromCache, liveAddrs, List.mem_eraseDups, List.mem_filterMap, List.mem_filter]
    exact ⟨e, ⟨hmem, (usable_iff now e).mpr huse⟩, by simp [addrItemOf, hr]⟩
  · simp only [resolveFromCache]
    cases ht : liveTxt c now inst with
    | none => left; simp [txtBytes]
    | some e =>
      have hmem : e ∈ (c.txt.get inst).getD [] := List.mem_of_find?_eq_some ht
      have huse : usable now e = true := List.find?_some ht
      cases hr : e.record.rdata with
      | txt b => right; exact ⟨e, hmem, (usable_iff now e).mp huse, by simp [txtBytes, hr]⟩
      | _ => left; simp [txtBytes, hr]

/-- One iteration: from a cache justified by the deliveries `hist`, an
    iteration at `now` leaves a cache justified by `hist` plus what this iteration delivered,
    and every `ServiceResolved` it emits is built - as `ResolvedFrom` says - from the usable
    entries of a cache that is so justified. -/
theorem resolved_sound (hist : List Delivery) (s : State) (now : Nat) (pkts : List Packet) (cmds : List Command)
    (h : CacheProv hist s.cache) :
    CacheProv (hist ++ deliveries s now pkts) (iter s now pkts cmds).1.cache ∧
    ∀ ch r, Out.event ch (.resolved r) ∈ (iter s now pkts cmds).2 →
      ∃ c, CacheProv (hist ++ deliveries s now pkts) c ∧ ResolvedFrom c now r := by
  have hk := ok_iter hist s now pkts cmds h
  refine ⟨hk.1, ?_⟩
  intro ch r hm
  obtain ⟨c, ty, inst, hc, rfl, hv⟩ := hk.2.1 ch r hm
  exact ⟨c, hc, resolveFromCache_sound c now ty inst hv⟩

/-- the deliveries of a whole history of iterations `(now, packets, commands)` -/
def histOf (s : State) : List (Nat × List Packet × List Command) → List Delivery
  | [] => []
  | (now, pkts, cmds) :: rest => deliveries s now pkts ++ histOf (iter s now pkts cmds).1 rest

/-- **CacheProv is an invariant of histories**, and every `ServiceResolved` of a history is
    built from usable entries of a justified cache. -/
theorem resolved_sound_run : ∀ (h : List (Nat × List Packet × List Command)) (hist0 : List Delivery) (s : State),
    CacheProv hist0 s.cache →
    CacheProv (hist0 ++ histOf s h) (run s h).1.cache ∧
    ∀ now ch r, (now, Out.event ch (.resolved r)) ∈ (run s h).2 →
      ∃ c, CacheProv (hist0 ++ histOf s h) c ∧ ResolvedFrom c now r
  | [], hist0, s, h0 => by
    simp only [histOf, List.append_nil, run]
    exact ⟨h0, fun _ _ _ hm => by cases hm⟩
  | (now, pkts, cmds) :: rest, hist0, s, h0 => by
    have h1 := resolved_sound hist0 s now pkts cmds h0
    have h2 := resolved_sound_run rest (hist0 ++ deliveries s now pkts) (iter s now pkts cmds).1 h1.1
    simp only [histOf, run]
    rw [← List.append_assoc]
    refine ⟨h2.1, ?_⟩
    intro now' ch r hm
    rcases List.mem_append.mp hm with hm | hm
    · obtain ⟨o, ho, he⟩ := List.mem_map.mp hm
      cases he
      obtain ⟨c, hc, hr⟩ := h1.2 ch r ho
      exact ⟨c, hc.mono fun d hd => List.mem_append_left _ hd, hr⟩
    · exact h2.2 now' ch r hm

theorem slot_srv {ty : Nat} (h : slotOf ty = some .srv) : ty = 33 := slotOf_eq_some h

theorem slot_txt {ty : Nat} (h : slotOf ty = some .txt) : ty = 16 := slotOf_eq_some h

theorem slot_addr {ty : Nat} (h : slotOf ty = some .addr) : ty = 1 ∨ ty = 28 := slotOf_eq_some h

theorem not_soon {r : Record} {now : Nat} (h : r.expiresSoon now = false) : now + 1000 < r.expires := by
  simpa [Record.expiresSoon] using h

/-- a delivered record is still within its TTL at `now`, with the second to spare that the
    daemon demands (`expires_soon`) -/
def Fresh (d : Delivery) (now : Nat) : Prop := now + 1000 < d.time + 1000 * d.wire.ttl

/-- What the statement of C03 says about an event, in terms of the records DELIVERED to the
    daemon (the cache has disappeared from the statement). -/
structure FromDeliveries (hist : List Delivery) (now : Nat) (r : Resolved) : Prop where
  /-- host and port come from an SRV record received for that instance, within its TTL -/
  srv : ∃ d ∈ hist, d.wire.name = r.fullname ∧ d.wire.ty = 33 ∧
    (∃ prio weight, d.wire.rdata = .srv prio weight r.port r.host) ∧ Fresh d now
  /-- every address from an A/AAAA record received for that host (any letter case), within
      its TTL, on the interface the address is tagged with -/
  addr : ∀ a ∈ r.addrs, ∃ d ∈ hist, lower d.wire.name = lower r.host ∧ (d.wire.ty = 1 ∨ d.wire.ty = 28) ∧
    (d.wire.rdata = .a a.1 ∨ d.wire.rdata = .aaaa a.1) ∧ d.ifName = a.2.1 ∧ d.ifIdx = a.2.2 ∧ Fresh d now
  /-- the TXT bytes from a received TXT record of the instance, within its TTL (or none) -/
  txt : r.txt = [] ∨ ∃ d ∈ hist, d.wire.name = r.fullname ∧ d.wire.ty = 16 ∧ d.wire.rdata = .txt r.txt ∧ Fresh d now
  host_ne : r.host ≠ []
  addrs_ne : r.addrs ≠ []

theorem fresh_of {d : Delivery} {e : Entry} {now : Nat} (j : Justifies d e) (h : e.record.expiresSoon now = false) :
    Fresh d now := by
  have := not_soon h
  have hexp : e.record.expires ≤ d.time + 1000 * d.wire.ttl := j.2.2.2.2.2.2.2
  unfold Fresh
  omega

theorem fromDeliveries_of (hist : List Delivery) (c : Cache) (now : Nat) (r : Resolved) (hc : CacheProv hist c)
    (hr : ResolvedFrom c now r) : FromDeliveries hist now r := by
  refine ⟨?_, ?_, ?_, hr.host_ne, hr.addrs_ne⟩
  · obtain ⟨e, hmem, huse, p, w, hrd⟩ := hr.srv
    obtain ⟨d, hd, j, hs, hk⟩ := hc.of_get .srv hmem
    exact ⟨d, hd, hk, slot_srv hs, ⟨p, w, ofWire_rdata_srv (hrd ▸ j.2.2.2.2.1)⟩, fresh_of j huse⟩
  · intro a ha
    obtain ⟨e, hmem, huse, hrd⟩ := hr.addr_sound a ha
    obtain ⟨d, hd, j, hs, hk⟩ := hc.of_get .addr hmem
    obtain ⟨h1, h2, h3⟩ := ofWire_rdata_addr (hrd ▸ j.2.2.2.2.1)
    exact ⟨d, hd, hk, slot_addr hs, h1, h2, h3, fresh_of j huse⟩
  · refine hr.txt.imp id fun ⟨e, hmem, huse, hrd⟩ => ?_
    obtain ⟨d, hd, j, hs, hk⟩ := hc.of_get .txt hmem
    exact ⟨d, hd, hk, slot_txt hs, ofWire_rdata_txt (hrd ▸ j.2.2.2.2.1), fresh_of j huse⟩

/-- **C03 on whole histories.**  Start the daemon (empty cache) and run ANY history: every
    `ServiceResolved` emitted at `now` has its host and port from a delivered SRV record of the
    instance, each address from a delivered A/AAAA record of that host tagged with the
    interface it arrived on, its TXT from a delivered TXT record - each still within its TTL
    with a second to spare - and a non-empty host and address set. -/
theorem resolved_from_received (t0 : Nat) (intfs : List Intf) (h : List (Nat × List Packet × List Command))
    (now ch : Nat) (r : Resolved) (hm : (now, Out.event ch (.resolved r)) ∈ (run (init t0 intfs) h).2) :
    FromDeliveries (histOf (init t0 intfs) h) now r := by
  obtain ⟨c, hc, hr⟩ := (resolved_sound_run h [] (init t0 intfs) (cacheProv_empty [])).2 now ch r hm
  exact fromDeliveries_of _ c now r (by simpa using hc) hr

/-- corollary, goodbye clause: a record withdrawn by a goodbye (TTL 0,
    stored as 1) that was delivered at or before `now` never justifies an event at `now` -/
theorem goodbye_never_used (d : Delivery) (now : Nat) (hg : d.wire.ttl ≤ 1) (ht : d.time ≤ now) : ¬ Fresh d now := by
  unfold Fresh
  have : 1000 * d.wire.ttl ≤ 1000 := by omega
  omega

/-- corollary, TTL clause: nothing is used at or after `delivery time + TTL - 1 s` -/
theorem past_ttl_never_used (d : Delivery) (now : Nat) (h : d.time + 1000 * d.wire.ttl ≤ now + 1000) : ¬ Fresh d now := by
  unfold Fresh
  omega

/-- corollary, cache-flush clause: an entry displaced by a cache-flush record at `t` (the
    rule of `add_or_update`, `Props.C11.flush_rule`) is unusable from `t` on - not only "more
    than one second" later -/
theorem flushed_entry_unusable (inc : Record) (t : Nat) (e : Entry) (hf : shouldFlush inc t e = true)
    (now : Nat) (ht : t ≤ now) : usable now (flushOne inc t e) = false := by
  simp only [usable, flushOne, hf, if_true, Record.setExpire, Record.expiresSoon, Bool.not_eq_false',
    decide_eq_true_eq]
  omega

def ty : BList := [0x5f, 0x74, 0x2e]          -- "_t."
def inst : BList := [0x69, 0x2e, 0x5f, 0x74, 0x2e]   -- "i._t."
def host : BList := [0x48, 0x2e]              -- "H."
def eth0 : Intf := ⟨2, [0x65], true, false⟩

def wrec (name : BList) (ty ttl : Nat) (rd : Wire.RData) : Wire.Rec :=
  { name, ty, cls := 1, flush := false, ttl, rdata := rd, start := 0, stop := 0 }

/-- PTR, SRV, TXT and an address in one response on interface 2 -/
def announce : Packet :=
  { ifIdx := 2, v4 := true,
    msg := { id := 0, flags := 0x8400, questions := [],
             answers := [wrec ty 12 120 (.ptr inst)],
             authorities := [],
             additionals := [wrec inst 33 120 (.srv 0 0 80 host), wrec inst 16 120 (.txt [1, 0x61]),
                             wrec host 1 120 (.a [10, 0, 0, 1])] } }

def theEvent : Resolved :=
  { ty, sub := none, fullname := inst, host, port := 80, addrs := [([10, 0, 0, 1], [0x65], 2)], txt := [1, 0x61] }

/-- browse, then the announcement arrives: `ServiceFound` and `ServiceResolved` are emitted -/
example :
    ((run (init 1000 [eth0]) [(1000, [], [.browse ty 1 false]), (1500, [announce], [])]).2.filter
        fun o => match o.2 with | .event _ (.resolved _) => true | .event _ (.found ..) => true | _ => false) =
      [(1500, .event 1 (.found ty inst)), (1500, .event 1 (.resolved theEvent))] := by decide +kernel

/-- a goodbye for the address: after it nothing is resolved from that address any more, and
    the instance is reported removed one second later (see C05) -/
def goodbyeAddr : Packet :=
  { announce with msg := { announce.msg with answers := [wrec host 1 1 (.a [10, 0, 0, 1])], additionals := [] } }

example :
    ((run (init 1000 [eth0]) [(1000, [], [.browse ty 1 false]), (1500, [announce], []), (3000, [goodbyeAddr], []),
        (4000, [], [])]).2.filter
        fun o => match o.2 with | .event _ (.resolved _) => true | .event _ (.removed ..) => true | _ => false) =
      [(1500, .event 1 (.resolved theEvent)), (4000, .event 1 (.removed ty inst))] := by decide +kernel

end Mdns.Props.C03
